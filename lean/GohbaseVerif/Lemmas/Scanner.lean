import GohbaseVerif.Model.Scanner
/-!
What `Close` and `update` change (`close_eq`, `update_eq`), the induction principle over whatever a
user does with a scanner against any replies (`Stable`), and the three invariants behind C14.
-/
namespace GV.Scanner
open GV

/-- The close request that `closeRegionScanner` sends, if any. -/
def closeEx (sc : Scan) (s : St) : List Exch :=
  match s.curId with
  | some id => if sc.closing then [] else [⟨closeReq s id, none⟩]
  | none => []

theorem mem_closeEx {sc : Scan} {s : St} {e : Exch} (h : e ∈ closeEx sc s) :
    ∃ id, e = ⟨closeReq s id, none⟩ := by
  unfold closeEx at h
  split at h
  · split at h
    · cases h
    · exact ⟨_, List.mem_singleton.mp h⟩
  · cases h

theorem closeRegionScanner_eq (sc : Scan) (s : St) :
    closeRegionScanner sc s = { s with curId := none, log := closeEx sc s ++ s.log } := by
  obtain ⟨cur, sr, res, cl, lg⟩ := s
  unfold closeRegionScanner closeEx
  cases cur with
  | none => rfl
  | some id => cases sc.closing <;> rfl

theorem closeRegionScanner_startRow (sc : Scan) (s : St) :
    (closeRegionScanner sc s).startRow = s.startRow := by
  rw [closeRegionScanner_eq]

theorem close_eq (sc : Scan) (s : St) :
    close sc s =
      if s.closed then s else { s with curId := none, closed := true, log := closeEx sc s ++ s.log } := by
  unfold close
  split
  · rfl
  · rw [closeRegionScanner_eq]; rfl

theorem closeEx_reverse (sc : Scan) (s : St) : (closeEx sc s).reverse = closeEx sc s := by
  unfold closeEx
  split
  · split <;> rfl
  · rfl

theorem close_log (sc : Scan) (s : St) (hc : s.closed = false) :
    (close sc s).log = closeEx sc s ++ s.log := by
  rw [close_eq, if_neg (by simp [hc])]

theorem close_closed (sc : Scan) (s : St) : (close sc s).closed = true := by
  rw [close_eq]
  split
  · assumption
  · rfl

theorem close_of_closed (sc : Scan) (s : St) (h : s.closed = true) : close sc s = s := by
  simp [close, h]

/-- Start row of the next open request after region `g` is finished (`updateRow`). -/
def nextStart (sc : Scan) (g : Region) : Bytes :=
  if !sc.reversed then g.stop else if g.start = [] then g.start else prevKey g.start

theorem updateRow_eq (sc : Scan) (s : St) (r : Resp) (g : Region) :
    updateRow sc s r g =
      if r.moreInRegion then s else { s with curId := none, startRow := nextStart sc g } := by
  unfold updateRow nextStart
  cases r.moreInRegion
  · cases sc.reversed
    · rfl
    · by_cases h : g.start = []
      · simp only [h, if_true]; rfl
      · simp only [h, if_false]; rfl
  · rfl

theorem update_eq (sc : Scan) (s : St) (r : Resp) (g : Region) :
    update sc s r g =
      if r.moreInRegion then { s with curId := s.curId.or r.scannerId }
      else { s with curId := none, startRow := nextStart sc g } := by
  obtain ⟨cur, sr, res, cl, lg⟩ := s
  rw [update, updateRow_eq]
  cases r.moreInRegion <;> cases cur <;> cases r.scannerId <;> rfl

theorem update_log (sc : Scan) (s : St) (r : Resp) (g : Region) : (update sc s r g).log = s.log := by
  rw [update_eq]; cases r.moreInRegion <;> rfl

theorem update_closed (sc : Scan) (s : St) (r : Resp) (g : Region) :
    (update sc s r g).closed = s.closed := by
  rw [update_eq]; cases r.moreInRegion <;> rfl

theorem mkReq_none (sc : Scan) (s : St) (h : s.curId = none) :
    mkReq sc s = { kind := .open, startRow := s.startRow, stopRow := sc.stop, id := none,
                   closeFlag := sc.closing, nrows := sc.nrows } := by
  simp [mkReq, h]

theorem mkReq_some (sc : Scan) (s : St) (i : Nat) (h : s.curId = some i) :
    mkReq sc s = { kind := .cont, startRow := s.startRow, stopRow := [], id := some i,
                   closeFlag := false, nrows := sc.nrows } := by
  simp [mkReq, h]

/-- Replaces the buffer, which nothing in the walk reads: `close`, `update`, `onResp`, `onErr`, `pull`
commute with it (`shift`, and what `peek` does after `fetch`, are instances). -/
def setBuf (s : St) (x : List Frag) : St := { s with results := x }

theorem close_setBuf (sc : Scan) (s : St) (x : List Frag) :
    close sc (setBuf s x) = setBuf (close sc s) x := by
  rw [close_eq, close_eq]
  show (if s.closed = true then _ else _) = _
  split <;> rfl

theorem update_setBuf (sc : Scan) (s : St) (r : Resp) (g : Region) (x : List Frag) :
    update sc (setBuf s x) r g = setBuf (update sc s r g) x := by
  rw [update_eq, update_eq]; cases r.moreInRegion <;> rfl

/-- The state after the request built from `s` got the reply `rp` (before `update`/`Close`). -/
def logged (sc : Scan) (s : St) (rp : Reply) : St :=
  { s with log := ⟨mkReq sc s, some rp⟩ :: s.log }

theorem onErr_eq (sc : Scan) (s : St) (c : String) :
    onErr sc s (some (.err c)) = close sc (logged sc s (.err c)) := rfl

theorem onResp_eq (sc : Scan) (s : St) (g : Region) (r : Resp) :
    onResp sc s g r =
      if isDone sc (update sc (logged sc s (.resp g r)) r g) r g
      then close sc (update sc (logged sc s (.resp g r)) r g)
      else update sc (logged sc s (.resp g r)) r g := rfl

theorem onResp_setBuf (sc : Scan) (s : St) (g : Region) (r : Resp) (x : List Frag) :
    onResp sc (setBuf s x) g r = setBuf (onResp sc s g r) x := by
  rw [onResp_eq, onResp_eq]
  have e : update sc (logged sc (setBuf s x) (.resp g r)) r g =
      setBuf (update sc (logged sc s (.resp g r)) r g) x :=
    update_setBuf sc (logged sc s (.resp g r)) r g x
  rw [e]
  show (if isDone sc (update sc (logged sc s (.resp g r)) r g) r g then _ else _) = _
  split
  · exact close_setBuf sc _ x
  · rfl

theorem onErr_setBuf (sc : Scan) (s : St) (rp : Option Reply) (x : List Frag) :
    onErr sc (setBuf s x) rp = setBuf (onErr sc s rp) x :=
  close_setBuf sc { s with log := ⟨mkReq sc s, rp⟩ :: s.log } x

theorem onResp_results (sc : Scan) (s : St) (g : Region) (r : Resp) :
    (onResp sc s g r).results = s.results := by
  -- `setBuf s s.results` is `s`
  have := congrArg St.results (onResp_setBuf sc s g r s.results)
  exact this

theorem onErr_closed (sc : Scan) (s : St) (rp : Option Reply) : (onErr sc s rp).closed = true :=
  close_closed sc _

/-- A property of scanner states that survives the four primitive state changes (`Close` changes
only an open scanner). -/
structure Stable (sc : Scan) (P : St → Prop) : Prop where
  buf : ∀ s rs, P s → P { s with results := rs }
  close : ∀ s, P s → s.closed = false →
    P { s with curId := none, closed := true, log := closeEx sc s ++ s.log }
  err : ∀ s c, P s → s.closed = false → P (logged sc s (.err c))
  resp : ∀ s g r, P s → s.closed = false → P (update sc (logged sc s (.resp g r)) r g)

theorem Stable.onClose {sc : Scan} {P : St → Prop} (hP : Stable sc P) (s : St) (h : P s) :
    P (Scanner.close sc s) := by
  rw [close_eq]
  by_cases hc : s.closed = true
  · rw [if_pos hc]; exact h
  · rw [if_neg hc]; exact hP.close s h (by simpa using hc)

theorem stable_onResp {sc : Scan} {P : St → Prop} (hP : Stable sc P) (s : St) (g : Region) (r : Resp)
    (h : P s) (hc : s.closed = false) : P (onResp sc s g r) := by
  rw [onResp_eq]
  split
  · exact hP.onClose _ (hP.resp s g r h hc)
  · exact hP.resp s g r h hc

theorem stable_fetch {sc : Scan} {P : St → Prop} (hP : Stable sc P) (R : List Reply) (s : St)
    (h : P s) (hc : s.closed = false) : P (fetch sc R s).2.1 := by
  fun_induction fetch sc R s with
  | case1 s | case2 _ _ s => exact hP.onClose _ (hP.err s _ h hc)  -- script exhausted, RPC error
  | case3 | case4 => exact stable_onResp hP _ _ _ h hc  -- a response with rows, or the last one
  | case5 _ _ _ _ _ _ hcl ih =>  -- an empty response, scanner still open: `fetch` goes on
    exact ih (stable_onResp hP _ _ _ h hc) (by simpa using hcl)

theorem stable_peek {sc : Scan} {P : St → Prop} (hP : Stable sc P) {R R1 : List Reply} {s s1 : St}
    {x : PeekRes} (h : P s) : peek sc R s = (x, s1, R1) → P s1 := by
  fun_cases peek sc R s with
  | case1 | case2 => rintro ⟨⟩; exact h  -- something is buffered, or the scanner is closed
  | case3 _ hc _ _ _ _ hf =>  -- `fetch` brought rows
    have := stable_fetch hP R s h (by simpa using hc); rw [hf] at this
    rintro ⟨⟩; exact hP.buf _ _ this
  | case4 _ hc _ _ hf | case5 _ hc _ _ _ hf =>  -- `fetch` ended the scan or failed
    have := stable_fetch hP R s h (by simpa using hc); rw [hf] at this
    rintro ⟨⟩; exact this

theorem stable_shift_if {sc : Scan} {P : St → Prop} (hP : Stable sc P) (b : Bool) (s : St)
    (h : P s) : P (if b then shift s else s) := by
  cases b
  · exact h
  · exact hP.buf _ _ h

theorem stable_nextLoop {sc : Scan} {P : St → Prop} (hP : Stable sc P) (fuel : Nat) (acc : Option Frag)
    (R : List Reply) (s : St) (x : Item × St × List Reply) (h : P s)
    (hx : nextLoop sc fuel acc R s = some x) : P x.2.1 := by
  fun_induction nextLoop sc fuel acc R s with
  | case1 => cases hx  -- no fuel
  | case2 _ _ _ _ _ hpk | case3 _ _ _ _ _ hpk | case4 _ _ _ _ _ _ _ hpk =>  -- `peek`: end or error
    cases hx; exact stable_peek hP h hpk
  | case5 _ _ _ _ _ _ _ hpk =>  -- a fragment that completes the result
    cases hx; exact stable_shift_if hP _ _ (stable_peek hP h hpk)
  | case6 _ _ _ _ _ _ _ hpk _ _ _ ih =>  -- a fragment after which the row goes on
    exact ih (stable_shift_if hP _ _ (stable_peek hP h hpk)) hx

theorem stable_next {sc : Scan} {P : St → Prop} (hP : Stable sc P) (c : Bool) (R : List Reply) (s : St)
    (h : P s) : P (next sc c R s).2.1 := by
  fun_cases next sc c R s with
  | case1 => exact hP.buf _ _ (hP.onClose _ h)  -- cancelled
  | case2 _ _ _ _ _ hpk => exact hP.buf _ _ (stable_peek hP h hpk)  -- partial results: a fragment
  | case3 _ _ _ _ hpk | case4 _ _ _ _ _ hpk => exact stable_peek hP h hpk  -- partial results: end or error
  | case5 =>  -- whole rows: the loop
    cases hx : nextLoop sc (measure R s + 1) none R s with
    | none => exact h
    | some x => exact stable_nextLoop hP _ _ _ _ x h hx

theorem stable_runOps {sc : Scan} {P : St → Prop} (hP : Stable sc P) (ops : List Op) (c : Bool)
    (R : List Reply) (s : St) (h : P s) : P (runOps sc ops c R s).2.1 := by
  induction ops generalizing c R s with
  | nil => exact h
  | cons op ops ih =>
    cases op with
    | next =>
      simp only [runOps]
      exact ih _ _ _ (stable_next hP c R s h)
    | close => exact ih _ _ _ (hP.onClose _ h)
    | cancel => exact ih _ _ _ h

theorem log_stable (sc : Scan) (Q : Exch → Prop) (hreq : ∀ s rp, Q ⟨mkReq sc s, rp⟩)
    (hclose : ∀ s id, Q ⟨closeReq s id, none⟩) : Stable sc (fun s => ∀ e ∈ s.log, Q e) where
  buf := fun _ _ h => h
  close := fun s h _ e he => by
    rcases List.mem_append.mp he with he | he
    · obtain ⟨id, rfl⟩ := mem_closeEx he
      exact hclose s id
    · exact h e he
  err := fun s c h _ e he => by
    rcases List.mem_cons.mp he with rfl | he
    · exact hreq s _
    · exact h e he
  resp := fun s g r h _ e he => by
    rw [update_log] at he
    rcases List.mem_cons.mp he with rfl | he
    · exact hreq s _
    · exact h e he

/-- States reachable from a fresh scanner by any user behaviour against any replies. -/
def Reachable (sc : Scan) (s : St) : Prop :=
  ∃ ops R, s = (runOps sc ops false R (St.init sc)).2.1

theorem stable_reachable {sc : Scan} {P : St → Prop} (hP : Stable sc P) (h0 : P (St.init sc))
    {s : St} (hr : Reachable sc s) : P s := by
  obtain ⟨ops, R, rfl⟩ := hr
  exact stable_runOps hP ops false R _ h0

def ClosedNoCur (s : St) : Prop := s.closed = true → s.curId = none

theorem closedNoCur_stable (sc : Scan) : Stable sc ClosedNoCur where
  buf := fun _ _ h => h
  close := fun _ _ _ _ => rfl
  err := fun s c _ hc h => by simp [logged, hc] at h
  resp := fun s g r _ hc h => by
    rw [update_eq] at h
    split at h <;> simp [logged, hc] at h

/-- The region scanners open at the server are exactly the current one; none for a `CloseScanner`
scan, where the server closes each with the response that announces it. -/
def LeaseOk (sc : Scan) (s : St) : Prop :=
  openSet s.log = if sc.closing then [] else s.curId.toList

theorem leaseOk_stable (sc : Scan) : Stable sc (LeaseOk sc) where
  buf := fun _ _ h => h
  close := fun s h _ => by
    unfold LeaseOk at h ⊢
    cases hcur : s.curId with
    | none => simpa [closeEx, hcur] using h
    | some c =>
      -- the close request takes `c` out of the open set; a `CloseScanner` scan has none open
      cases hcl : sc.closing <;> simp [closeEx, openSet, openAfter, closeReq, hcl, hcur, h]
  err := fun s c h _ => by
    -- an error reply opens and closes nothing
    unfold LeaseOk at h ⊢
    cases hcur : s.curId <;> simpa [logged, openSet, openAfter, mkReq_none, mkReq_some, hcur] using h
  resp := fun s g r h _ => by
    unfold LeaseOk at h ⊢
    rw [update_eq]
    cases hcur : s.curId with
    | none =>
      -- open request. The one case in which something opens: an id is announced, the region goes on
      -- and the request carried no `close_scanner`; it is the case in which `update` keeps the id
      cases hcl : sc.closing <;> cases hmi : r.moreInRegion <;> cases hid : r.scannerId <;>
        simp [logged, openSet, openAfter, mkReq_none sc s hcur, hcur, hcl, hmi, hid, h]
    | some c =>
      -- continue request. The one case in which something closes: the response ends the region; it is
      -- the case in which `update` forgets `c`
      cases hcl : sc.closing <;> cases hmi : r.moreInRegion <;>
        simp [logged, openSet, openAfter, mkReq_some sc s c hcur, hcur, hcl, hmi, h]

/-- Every learnt scanner id, occurrence by occurrence, was reported exhausted, or was sent a close
request, or is the current one. (Not so for `CloseScanner` scans: they send no close.) -/
def Balance (s : St) : Prop :=
  ∀ id, (learnt s.log).count id =
    (exhausted s.log).count id + (closesSent s.log).count id + s.curId.toList.count id

theorem balance_stable (sc : Scan) (hcl : sc.closing = false) : Stable sc Balance where
  buf := fun _ _ h => h
  close := fun s h _ id => by
    have := h id
    cases hcur : s.curId with
    | none => simpa [closeEx, hcur] using this
    | some c =>
      -- `c` is no longer current and has been sent a close request
      simp [closeEx, hcur, hcl, learnt, exhausted, closesSent, closeReq, List.count_cons] at this ⊢
      omega
  err := fun s c h _ id => by
    have := h id
    cases hcur : s.curId <;>
      simpa [logged, learnt, exhausted, closesSent, mkReq_none, mkReq_some, hcur] using this
  resp := fun s g r h _ id => by
    have := h id
    rw [update_eq]
    cases hcur : s.curId with
    | none =>
      -- open request: the announced id is learnt; current if the region goes on, else exhausted
      cases hmi : r.moreInRegion <;>
        simp [logged, learnt, exhausted, closesSent, mkReq_none sc s hcur, Exch.subject, hcur, hmi,
          List.count_append] at this ⊢ <;>
        omega
    | some c =>
      -- continue request: `c` stays current if the region goes on, else it is exhausted
      cases hmi : r.moreInRegion <;>
        simp [logged, learnt, exhausted, closesSent, mkReq_some sc s c hcur, Exch.subject, hcur, hmi,
          List.count_cons] at this ⊢ <;>
        omega

theorem Reachable.closedNoCur {sc : Scan} {s : St} (h : Reachable sc s) : ClosedNoCur s :=
  stable_reachable (closedNoCur_stable sc) (by intro h; simp [St.init] at h) h

theorem Reachable.leaseOk {sc : Scan} {s : St} (h : Reachable sc s) : LeaseOk sc s :=
  stable_reachable (leaseOk_stable sc) (by simp [LeaseOk, St.init, openSet]) h

theorem Reachable.balance {sc : Scan} {s : St} (h : Reachable sc s) (hcl : sc.closing = false) :
    Balance s :=
  stable_reachable (balance_stable sc hcl) (by intro id; simp [St.init, learnt, exhausted, closesSent]) h

end GV.Scanner
