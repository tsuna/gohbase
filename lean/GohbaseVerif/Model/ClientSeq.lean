import GohbaseVerif.Model.Classify
/-!
# Sequentialised progress of one request under a stable cluster (C04)

A deliberately small model.  One request for one row key is retried by the `SendRPC` loop against
a cluster whose layout no longer changes.  What is abstracted, precisely:

* **Layout (truth).**  `owner` is the region that owns the key, `host r` the server hosting
  region `r`; all servers are up and answer.  Meta lookups return this truth (a lookup by the
  request key returns `owner`; a lookup by the start key of a stale descriptor `r` returns
  `owner` iff `sameStart r`, otherwise some other region that does not cover the key).
* **Client state.**  `cached`: the descriptor the region cache returns for the key — C08 says at
  most one cached region covers a key — possibly stale (`≠ owner`); `links`: region ↦ server its
  connection object goes to (absent = `reg.Client() == nil`), possibly to the wrong server;
  `deadConns`: servers whose *cached connection object* is broken without the client having
  noticed; `transient`: number of retry-later answers (RegionTooBusy, …) the owner's server will
  still give this request.  `appError`: an application-level exception the owner's server
  answers with (a "real error").
* **Sequentialisation.**  Between two attempts the error handler (`handleResultError`,
  `clientDown`) and the establisher it starts run to completion, alone (`establish`, `connect`);
  no other request interferes.  Fairness of the Go scheduler is assumed; waits and back-off are
  not modelled (C17 does that).  The availability protocol (C09) is what makes the requester
  wait for exactly that completion.
* **Classification.**  The server's answers are Java class names classified by `classify`
  (regenerated tables), and the handler is chosen by the resulting class.
-/
namespace GV.ClientSeq
open GV.Classify

structure Layout where
  owner : Nat
  host : Nat → Nat
  sameStart : Nat → Bool
  appError : Option String := none

structure Client where
  cached : Option Nat := none
  links : List (Nat × Nat) := []
  deadConns : List Nat := []
  transient : Nat := 0
  deriving Repr, DecidableEq

inductive Outcome where
  | success (server region : Nat)         -- answered by that server for that region
  | returned (cls : String) (server region : Nat)   -- a real (unclassified) error, handed to the caller
  | failed (k : ErrClass)                 -- classified: handled and retried
  | stuck                                  -- cannot happen (see `resolve_spec`)
  deriving Repr, DecidableEq

def linkOf (c : Client) (r : Nat) : Option Nat := (c.links.find? (·.1 == r)).map (·.2)

/-- `clients.put(host r)` + `Dial` + probe, repeated until it succeeds (the cluster is stable, so
at the latest the second connection object works): a broken cached connection object for that
server is discovered by `Dial`/probe, `clientDown` drops it with all its links, and a fresh one
is made. -/
def connect (L : Layout) (c : Client) (r : Nat) : Client :=
  if L.host r ∈ c.deadConns then
    { c with deadConns := c.deadConns.filter (· != L.host r),
             links := (r, L.host r) :: c.links.filter fun l => l.1 != r && l.2 != L.host r }
  else { c with links := (r, L.host r) :: c.links.filter (·.1 != r) }

/-- `reestablishRegion(r)` run to completion. -/
def establish (L : Layout) (c : Client) (r : Nat) : Client :=
  if r = L.owner then connect L c r
  else
    -- lookup finds a different region: `regions.put` drops `r` (overlap), `clients.del(r)`
    let c1 := { c with links := c.links.filter (·.1 != r), cached := none }
    if L.sameStart r then connect L { c1 with cached := some L.owner } L.owner else c1

/-- `getRegionAndClientForRPC`: cache, else `findRegion`; nil client → re-establish and look again. -/
def resolve (L : Layout) (c : Client) : Client :=
  let c1 := match c.cached with
    | some r => if (linkOf c r).isSome then c else establish L c r
    | none => c
  match c1.cached with
  | none => connect L { c1 with cached := some L.owner } L.owner     -- findRegion + establishRegion
  | some _ => c1

/-- what the server `srv` answers a call for region `r` -/
def serverAnswer (L : Layout) (c : Client) (r srv : Nat) : Option String :=
  if r ≠ L.owner ∨ srv ≠ L.host r then some "org.apache.hadoop.hbase.NotServingRegionException"
  else if c.transient > 0 then some "org.apache.hadoop.hbase.RegionTooBusyException"
  else L.appError

/-- `clientDown(conn to srv, r)` followed by the establisher for `r` -/
def connectionLost (L : Layout) (c : Client) (r srv : Nat) : Client :=
  establish L { c with deadConns := c.deadConns.filter (· != srv),
                       links := c.links.filter (·.2 != srv) } r

/-- one iteration of the `SendRPC` loop -/
def attempt (L : Layout) (c : Client) : Outcome × Client :=
  let c1 := resolve L c
  match c1.cached with
  | none => (.stuck, c1)
  | some r =>
    match linkOf c1 r with
    | none => (.stuck, c1)
    | some srv =>
      if srv ∈ c1.deadConns then (.failed .server, connectionLost L c1 r srv)   -- write/read fails
      else match serverAnswer L c1 r srv with
        | none => (.success srv r, c1)
        | some cls =>
          match classify cls "" with
          | .nsre => (.failed .nsre, establish L c1 r)        -- handleResultError: that region only
          | .server => (.failed .server, connectionLost L c1 r srv)
          | .retryable => (.failed .retryable, { c1 with transient := c1.transient - 1 })
          | .fatal => (.returned cls srv r, c1)

def staleLink (L : Layout) (l : Nat × Nat) : Bool := l.2 != L.host l.1

/-- number of stale cache entries + stale links + broken connection objects + pending transient faults -/
def measure (L : Layout) (c : Client) : Nat :=
  (match c.cached with | some r => if r = L.owner then 0 else 1 | none => 0) +
  (c.links.filter (staleLink L)).length + c.deadConns.length + c.transient

/-- the `SendRPC` loop with fuel: index of the attempt that ended it and how -/
def sendRPC (L : Layout) : Nat → Client → Nat → Option (Nat × Outcome)
  | 0, _, _ => none
  | fuel + 1, c, n =>
    match attempt L c with
    | (.failed _, c') => sendRPC L fuel c' (n + 1)
    | (o, _) => some (n + 1, o)

end GV.ClientSeq
