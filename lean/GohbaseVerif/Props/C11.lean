import GohbaseVerif.Props.C11Names
import GohbaseVerif.Props.C16
import GohbaseVerif.Gen.Exits
import GohbaseVerif.Lemmas.Receive
/-!
# C11 — Malformed data from the network cannot crash the client

"No byte sequence received from a regionserver — response frames, headers, exceptions,
multi-responses, cellblocks — or read as an hbase:meta row can make the client panic, read outside
the received data or spin: decoding either produces a result or reports an error to the affected
callers, and an unusable stream fails the connection in the orderly way of C03."

The model (`Model/Receive.lean`, `Model/Cell.lean`) turns every Go index / slice / nil dereference /
type assertion / explicit `panic` and every send on a full result channel into `Outcome.fault`; the
theorems say that no input reaches one: for *all* decoded structures (optional fields absent,
counts / lengths / indices inconsistent with the data) and *all* byte strings.

Hypotheses that appear below and what they stand for:
* `Frame.WF`: the frame buffer has the `uint32` size read from the wire and `protowire.ConsumeBytes`
  consumed no more than the buffer holds (trusted protobuf library);
* `ReqDecoded` / `ReqMulti` / `ReqDecode`: `proto.Unmarshal` rejects a message that lacks a proto2
  `required` field (`NameBytesPair.name`, `RegionInfo.table_name`) — trusted protobuf library;
* the connection's decompressor does not fault (the compressed-stream part of C11, proved separately);
* result channels are empty when a call's response arrives (C02/C03/C12: one completion per call).

Cannot spin: every loop of the modelled functions is structural recursion over the finite decoded
response — `desRars`/`desRoes`/`returnRars`/`returnRoes`/`failRegion`/`sweep`/`failAll` over the
lists of region results, action results and calls, `scanLoop` over `cells_per_result`,
`deserializeFrom` over the cell count, `nextLoop` over the fetched results, `parseLoop` over the
cells of the meta row. No definition takes fuel. The one Go loop whose iteration may not consume
input (`Next`'s coalescing loop, when `coalesce` reports "not done") is shown to return in that
case (`next_never_spins`), and every `Next` that yields a result consumes a fetched result
(`next_consumes_input`).

A multi response may itself say that the regionserver is not in service (an exception of the classes
of `javaServerExceptions`, for a region or for one action): `receive` then fails the connection
after having answered every call (`server_exception_in_multi_ends_connection`,
`multi_connection_failure_only_for_server_exception`); the no-panic / no-block / exactly-once
theorems hold for these responses like for every other.

Outside the model (DESIGN §6 C11 **R**): the *size* of allocations made from wire-declared counts
(`make([]*pb.Cell, count)`), see KNOWN_FINDINGS `alloc-*`.
-/
namespace GV.C11
open GV GV.Cell GV.Receive

/-! ## cells -/

/-- `cellFromCellBlock` returns a cell or an error on every byte string. -/
theorem cellFromCellBlock_never_faults (b : Bytes) : (cellFromCellBlock b).isFault = false :=
  (cellFromCellBlock_safe b).isFault

/-- A decoded cell never claims more bytes than the buffer holds (so the caller's `b[readLen:]` stays
in range). -/
theorem cellFromCellBlock_consumed_le_len (b : Bytes) (c : Cell) (l : Nat)
    (h : cellFromCellBlock b = .ok (c, l)) : l ≤ b.length :=
  (cellFromCellBlock_safe b).of_ok h

/-- `deserializeCellBlocks` returns cells or an error on every byte string and every count
(including the `uint32` wrap of `readLen`). The loop runs at most `cellsLen` times. -/
theorem deserializeCellBlocks_never_faults (b : Bytes) (cellsLen : Nat) :
    (deserializeCellBlocks b cellsLen).isFault = false :=
  (deserializeCellBlocks_safe b cellsLen).isFault

/-- … and never reports more bytes read than the buffer holds (callers slice with it). -/
theorem deserializeCellBlocks_read_le_len (b : Bytes) (n : Nat) (cs : List Cell) (r : Nat)
    (h : deserializeCellBlocks b n = .ok (cs, r)) : r ≤ b.length :=
  (deserializeCellBlocks_safe b n).of_ok h

/-! Non-vacuity: inputs on which a decoder that slices before it checks would fault (fix ea9133c) are
errors, and the fault branches are real (the second half of the decoder does fault when called
without the checks). -/
example : cellFromCellBlock [0, 0, 0, 0] = .err "small" := by decide
example : cellFromCellBlock
    [0, 0, 0, 20, 0, 0, 0, 12, 0, 0, 0, 0, 0xff, 0xff, 0, 0, 0, 0, 0, 0, 0, 0, 0, 4]
    = .err "rowlen" := by decide
example : (cellBody 20 12 0 65535 [0, 0, 0, 0, 0, 0, 0, 0, 0, 4]).isFault = true := by decide
example : deserializeCellBlocks [0, 0, 0, 1] 3 = .err "buffer is too small for the cell count" := by
  decide +kernel

/-! ## get / mutate / scan responses -/

theorem getDeserialize_no_fault (r : GetResp) (b : Bytes) : (getDeserialize r b).isFault = false :=
  (getDeserialize_safe r b).isFault

/-- `Scan.DeserializeCellBlocks` never panics: `partials[i]`, `Results[i]` and `b[readLen:]` stay in
range for every pair of count / flag arrays and every cellblock. -/
theorem scanDeserialize_no_fault (r : ScanResp) (b : Bytes) : (scanDeserialize r b).isFault = false :=
  (scanDeserialize_safe r b).isFault

/-! ## multi responses: `DeserializeCellBlocks` -/

/-- `multi.DeserializeCellBlocks` never panics, whatever indices, results, exceptions and counts
the response carries and whatever the cellblock bytes are. -/
theorem multiDeserialize_no_fault (m : Multi) (mr : MultiResp) (b : Bytes) :
    (multiDeserialize m mr b).isFault = false :=
  (multiDeserialize_safe m mr b).isFault

/-- … and a response it accepts is `Validated`: every action index is non-zero and refers to a
live call; a region exception comes without action results. -/
theorem multiDeserialize_validates (m : Multi) (mr mr' : MultiResp) (b : Bytes) (n : Nat)
    (h : multiDeserialize m mr b = .ok (mr', n)) : Validated m mr' ∧ n ≤ b.length := by
  obtain ⟨hn, hv, _⟩ := (multiDeserialize_safe m mr b).of_ok h
  exact ⟨hv, hn⟩

/-- `DeserializeCellBlocks` does not touch exceptions: what `serverErrorIn` finds in the response
handed to the callers is what the wire message held. -/
theorem multiDeserialize_keeps_server_exceptions (m : Multi) (mr mr' : MultiResp) (b : Bytes) (n : Nat)
    (h : multiDeserialize m mr b = .ok (mr', n)) : serverErrorIn mr' = serverErrorIn mr := by
  obtain ⟨_, _, hexc⟩ := (multiDeserialize_safe m mr b).of_ok h
  exact serverErrorIn_congr hexc

/-! ## multi responses: returning the results -/

/-- If `DeserializeCellBlocks` accepted the response, `returnResults` never panics and never blocks:
`m.get(i)` with `i = 0` or out of range, `m.regions[i]` out of range, a nil call, a second send on
a result channel — all unreachable. -/
theorem multi_return_no_fault_after_validation (m : Multi) (mr mr' : MultiResp) (b : Bytes) (n : Nat)
    (hreq : ReqMulti mr) (h : multiDeserialize m mr b = .ok (mr', n)) :
    (multiReturn m (some mr') none).isFault = false := by
  obtain ⟨_, hv, hexc⟩ := (multiDeserialize_safe m mr b).of_ok h
  exact multiReturn_no_fault m mr' hv (reqMulti_congr hexc hreq)

/-- After `returnResults` every live call of the multi has exactly one delivery and every dropped
call none — whether the response mentions the call once, never, twice, or its region reported an
exception. (Holds for every completed run, validated or not; with the previous theorem: for every
accepted response.) -/
theorem multi_each_live_call_answered_once (m : Multi) (msg : Option MultiResp) (err : Option ErrCls)
    (ds : List (Nat × Delivery)) (h : multiReturn m msg err = .ok ds) :
    ∀ j, (ds.map (·.1)).count j = if liveAt m.calls j = true then 1 else 0 :=
  multiReturn_counts m msg err ds h

/-- A rejected response (`returnResults(nil or msg, err)`) yields exactly one error of that class per
live call, and nothing else. -/
theorem multi_invalid_response_is_error_for_all (m : Multi) (msg : Option MultiResp) (e : ErrCls) :
    ∃ ds, multiReturn m msg (some e) = .ok ds ∧
      (∀ j, (ds.map (·.1)).count j = if liveAt m.calls j = true then 1 else 0) ∧
      (∀ p ∈ ds, p.2 = errD e) :=
  multiReturn_err m msg e

/-! ## `receive` -/

/-- `receive`, from the decoded header onward, never panics: for every header, every response
structure, every cellblock bytes, every `cell_block_meta` length (the `uint32` arithmetic of
`b[size-cellsLen:]` included), every registered call (single, multi, or none). -/
theorem receive_no_fault (lookup : Nat → Option Rpc) (ctxDone : Bool)
    (decompress : Option (Bytes → Outcome Bytes)) (f : Frame) (hwf : f.WF)
    (hreq : ReqDecoded f.decoded)
    (hdec : ∀ dec, decompress = some dec → ∀ b, (dec b).isFault = false) :
    (receiveDecide lookup ctxDone decompress f).isFault = false := by
  obtain ⟨hsize, hlens⟩ := hwf
  unfold receiveDecide
  dsimp only
  cases f.header.callId
  · rfl
  rename_i id
  dsimp only
  cases lookup id
  · rfl
  rename_i rpc
  cases ctxDone
  case true => rfl
  cases f.header.exception
  case some e => exact finish_err_no_fault _ _ _ (by cases rpc <;> trivial)
  dsimp only
  rw [if_neg Bool.false_ne_true, if_neg (by omega)]
  cases hrl : f.respLen
  · exact finish_err_no_fault _ _ _ (emptyFor_fits rpc)
  rename_i respLen
  rw [hrl, Option.getD_some] at hlens
  dsimp only
  cases hmsg : decodeFor rpc f.decoded
  · exact finish_err_no_fault _ _ _ (emptyFor_fits rpc)
  rename_i msg
  dsimp only
  have hfits := decodeFor_fits hmsg
  -- `DeserializeCellBlocks` is skipped only for a call that is not a multi
  refine Outcome.isFault_ite (fun hcond => finishOk_no_fault fun m hm => by
    subst hm; simp [isMulti, canDeserialize] at hcond) fun hcond => ?_
  have hcan : canDeserialize rpc = true := by
    cases hc : canDeserialize rpc with
    | true => rfl
    | false => simp [hc] at hcond
  refine Outcome.isFault_ite (fun _ => finish_err_no_fault _ _ _ hfits) fun hguard => ?_
  -- the `uint64` guard has passed, so the `uint32` subtraction in `b[size-cellsLen:]` is exact
  rw [subU64_rest hsize hlens] at hguard
  rw [subU32_of_le hsize (by omega), if_neg (by omega)]
  have tail : ∀ cb : Bytes, (match deserializeFor rpc msg cb with
      | .fault w => Outcome.fault w
      | .err _ => finish rpc msg (some .retryable)
      | .ok (msg', nread) =>
        if nread < cb.length then finish rpc msg' (some .retryable) else finishOk rpc msg').isFault = false := by
    intro cb
    refine (deserializeFor_safe hmsg hcan hreq cb).elim (fun (msg', nread) ha => ?_)
      (fun e => finish_err_no_fault _ _ _ hfits)
    exact Outcome.isFault_ite (fun _ => finish_err_no_fault _ _ _ ha.fits) (fun _ => finishOk_no_fault ha)
  cases decompress with
  | none => exact tail _
  | some dec =>
    dsimp only
    exact (Outcome.Safe.of_isFault (hdec dec rfl _)).elim (fun cb _ => tail cb)
      (fun e => finish_err_no_fault _ _ _ hfits)

/-- A frame whose header carries no call id, or the id of no outstanding call, is an unusable
stream: `receive` returns a `ServerError` (connection failure of C03) and delivers nothing itself. -/
theorem receive_unusable_id_fails_connection (lookup : Nat → Option Rpc) (ctxDone : Bool)
    (decompress : Option (Bytes → Outcome Bytes)) (f : Frame)
    (h : f.header.callId = none ∨ ∃ id, f.header.callId = some id ∧ lookup id = none) :
    receiveDecide lookup ctxDone decompress f = .ok ⟨[], true⟩ := by
  unfold receiveDecide
  rcases h with h | ⟨id, h1, h2⟩
  · simp only [h]
  · simp only [h1, h2]

/-- The `if … else if` chain of `exceptionToError` consults the tables in this order (regenerated
from the source on every run). -/
theorem exception_arms_order :
    Gen.Exceptions.arms.map (·.2) = ["RetryableError", "NotServingRegionError", "ServerError"] ∧
    Gen.Exceptions.shapeOk = true := ⟨rfl, rfl⟩

/-- Whatever a response for a multi looks like — valid, rejected, an exception, undecodable —
when `receive` is done with it every live call of the multi holds exactly one result and no
dropped call holds any. -/
theorem receive_multi_each_live_call_once (lookup : Nat → Option Rpc)
    (decompress : Option (Bytes → Outcome Bytes)) (f : Frame) (id : Nat) (m : Multi) (v : Verdict)
    (hid : f.header.callId = some id) (hl : lookup id = some (.multi m))
    (h : receiveDecide lookup false decompress f = .ok v) :
    ∀ j, (v.deliveries.map (·.1)).count j = if liveAt m.calls j = true then 1 else 0 := by
  cases he : f.header.exception with
  | some e =>
    rw [receiveDecide_exception lookup decompress f id _ e hid hl he] at h
    exact finish_multi_counts h
  | none =>
    obtain ⟨w, hw⟩ | ⟨msg, hm⟩ | ⟨msg, hm⟩ := receiveDecide_exits lookup decompress f id _ hid hl he
    · rw [h] at hw; cases hw
    · exact finish_multi_counts (hm ▸ h)
    · obtain ⟨mr, _, hds, _⟩ := finishOk_multi_ok (hm ▸ h)
      exact multiReturn_counts m _ _ _ hds

/-! ### a multi response that says the regionserver is going down

`region/client.go` `serverErrorIn`: an exception of the classes of `javaServerExceptions`
(`exceptionToError` makes a `ServerError` of it) inside a multi response — for a whole region or for
one action — fails the connection like the same exception in a response header does, *after* every
call of the multi has been given its own result. -/

/-- The accepted path of `receive` for a multi — no header exception, a response that decodes (`mr`),
a `cell_block_meta` length that fits into the frame, a cellblock that `DeserializeCellBlocks`
accepts (giving `mr'`) and reads to its end: every call gets exactly what
`returnResults(response, nil)` gives it (the per-call results do not depend on whether the connection
fails afterwards; `multi_return_no_fault_after_validation` and `multi_each_live_call_answered_once`
speak about them), and `receive` returns a `ServerError` — the connection fails — exactly if the
response carries a server-class exception. -/
theorem accepted_multi_connection_state (lookup : Nat → Option Rpc) (f : Frame) (id rl : Nat)
    (m : Multi) (mr mr' : MultiResp) (n : Nat) (hwf : f.WF)
    (hid : f.header.callId = some id) (hl : lookup id = some (.multi m))
    (hexc : f.header.exception = none) (hrl : f.respLen = some rl)
    (hdec : f.decoded.multi = some mr)
    (hcl : cellsLenOf f.header ≤ f.body.length - f.headerLen - rl)
    (hdes : multiDeserialize m mr (f.body.drop (f.body.length - cellsLenOf f.header)) = .ok (mr', n))
    (hn : cellsLenOf f.header ≤ n) :
    receiveDecide lookup false none f
      = (multiReturn m (some mr') none).map (fun ds => ⟨ds, serverErrorIn mr⟩) := by
  obtain ⟨hsize, hlens⟩ := hwf
  rw [hrl, Option.getD_some] at hlens
  have hse := multiDeserialize_keeps_server_exceptions m mr mr' _ n hdes
  unfold receiveDecide
  simp only [hid, hl, hexc, hrl, decodeFor, hdec, Option.map_some, isMulti, canDeserialize,
    Bool.or_true, Bool.and_true, Bool.not_true, Bool.false_eq_true, if_false,
    subU64_rest hsize hlens, subU32_of_le hsize (show cellsLenOf f.header ≤ f.body.length by omega)]
  -- the guards, in order: `size < headerLen`, `cellsLen > rest`, `size < size - cellsLen`
  rw [if_neg (by omega), if_neg (by omega), if_neg (by omega)]
  simp only [deserializeFor, hdes, Outcome.map]
  -- the short-read check `nread < len(b)`
  rw [if_neg (by simp only [List.length_drop]; omega), finishOk_multi_eq, hse]
  cases multiReturn m (some mr') none <;> rfl

/-- A well-formed multi response that contains a server-class exception — region-level or per-action,
in any `RegionActionResult` — ends the connection: the calls get their results
(`returnResults(response, nil)`), then `receive` returns the `ServerError` (`connFail`), so
`receiveRPCs` calls `c.fail` and exits (C03). -/
theorem server_exception_in_multi_ends_connection (lookup : Nat → Option Rpc) (f : Frame) (id rl : Nat)
    (m : Multi) (mr mr' : MultiResp) (n : Nat) (hwf : f.WF)
    (hid : f.header.callId = some id) (hl : lookup id = some (.multi m))
    (hexc : f.header.exception = none) (hrl : f.respLen = some rl)
    (hdec : f.decoded.multi = some mr)
    (hcl : cellsLenOf f.header ≤ f.body.length - f.headerLen - rl)
    (hdes : multiDeserialize m mr (f.body.drop (f.body.length - cellsLenOf f.header)) = .ok (mr', n))
    (hn : cellsLenOf f.header ≤ n) (hsrv : serverErrorIn mr = true) :
    receiveDecide lookup false none f
      = (multiReturn m (some mr') none).map (fun ds => ⟨ds, true⟩) := by
  rw [accepted_multi_connection_state lookup f id rl m mr mr' n hwf hid hl hexc hrl hdec hcl hdes hn,
    hsrv]

/-- Conversely, the response to a multi fails the connection only for a server-class exception: in
the header (every call gets that `ServerError`) or inside the accepted response (every call has got
what `returnResults(response, nil)` gives it). A response that is rejected — undecodable, bad
`cell_block_meta`, bad cellblock, indices `DeserializeCellBlocks` refuses, short read — never does,
whatever exceptions it mentions. -/
theorem multi_connection_failure_only_for_server_exception (lookup : Nat → Option Rpc)
    (decompress : Option (Bytes → Outcome Bytes)) (f : Frame) (id : Nat) (m : Multi) (v : Verdict)
    (hid : f.header.callId = some id) (hl : lookup id = some (.multi m))
    (h : receiveDecide lookup false decompress f = .ok v) (hcf : v.connFail = true) :
    (∃ e, f.header.exception = some e ∧
        exceptionToError (e.className.getD []) (e.stackTrace.getD []) = .connErr ∧
        multiReturn m none (some .connErr) = .ok v.deliveries) ∨
    (f.header.exception = none ∧
      ∃ mr, serverErrorIn mr = true ∧ multiReturn m (some mr) none = .ok v.deliveries) := by
  cases he : f.header.exception with
  | some e =>
    rw [receiveDecide_exception lookup decompress f id _ e hid hl he] at h
    -- `returnResult` for a multi without a message is `multiReturn m none`
    obtain ⟨ds, hds, rfl⟩ := finish_eq_ok h
    have hc : exceptionToError (e.className.getD []) (e.stackTrace.getD []) = .connErr := by simpa using hcf
    rw [hc] at hds
    exact .inl ⟨e, rfl, hc, hds⟩
  | none =>
    refine .inr ⟨rfl, ?_⟩
    obtain ⟨w, hw⟩ | ⟨msg, hm⟩ | ⟨msg, hm⟩ := receiveDecide_exits lookup decompress f id _ hid hl he
    · rw [h] at hw; cases hw
    · obtain ⟨ds, _, rfl⟩ := finish_eq_ok (hm ▸ h)
      cases hcf
    · obtain ⟨mr, _, hds, hs⟩ := finishOk_multi_ok (hm ▸ h)
      exact ⟨mr, hs ▸ hcf, hds⟩

/-! ## scanner coalescing -/

/-- `coalesce` never indexes an empty cell list (zero-cell partial results included). -/
theorem coalesce_no_fault (result : Option PResult) (part : PResult) :
    (coalesce result part).isFault = false :=
  (coalesce_safe result part).isFault

/-- The coalescing loop of `Next` never panics and never spins: an iteration that does not consume
the fetched result returns. -/
theorem next_never_spins (result : Option PResult) (buf : List PResult) :
    (nextLoop result buf).isFault = false :=
  (nextLoop_safe result buf).isFault

/-- A `Next` that yields a result has consumed at least one fetched result. -/
theorem next_consumes_input (buf : List PResult) (r : PResult) (rest : List PResult)
    (h : nextLoop none buf = .ok (some r, rest)) : rest.length < buf.length := by
  cases buf with
  | nil => cases h
  | cons p tl =>
    rw [nextLoop.eq_3] at h   -- the clause for a buffer that is not empty
    simp only [coalesce] at h
    split at h
    · cases h; exact Nat.lt_succ_self _
    · exact Nat.lt_succ_of_le ((nextLoop_safe _ _).of_ok h)

/-! ## region info -/

/-- `ParseRegionInfo` / `infoFromCell` never panic, for every value of the `regioninfo` cell (length
0–3 included) and every meta row. -/
theorem regionInfo_no_fault (decode : Bytes → Option RegionInfoPB) (hreq : ReqDecode decode)
    (cells : List (MetaQual × Bytes)) : (parseRegionInfo decode cells).isFault = false :=
  (parseRegionInfo_safe decode hreq cells).isFault

/-! ### meta row keys (fix 7f9c1ed) — the check and its helper in `Props/C11Names.lean` -/

/-- A meta row key that passes `infoFromCell`'s check is `table,startkey,id` with comma-free table
and id … -/
theorem meta_row_key_accepted_is_region_name (n : Bytes) (h : GV.RegionName.acceptedName n = true) :
    ∃ t k s, n = GV.RegionName.mkName t k s ∧ GV.RegionName.comma ∉ t ∧ GV.RegionName.comma ∉ s := by
  open GV.RegionName in
  have h2 : 2 ≤ n.count comma := by simpa [acceptedName] using h
  obtain ⟨t, r, e, ht⟩ := List.eq_append_cons_of_mem (List.count_pos_iff.mp (by omega) : comma ∈ n)
  have hc : n.count comma = 1 + r.count comma := by
    rw [e, List.count_append, List.count_cons_self, List.count_eq_zero.mpr ht]; omega
  obtain ⟨k, s, e2, hs⟩ := eq_append_cons_of_mem_last (List.count_pos_iff.mp (by omega) : comma ∈ r)
  exact ⟨t, k, s, by rw [e, e2]; rfl, ht, hs⟩

/-- … so comparing two accepted names (what the location cache does with them) never panics. -/
theorem meta_row_keys_never_crash_the_cache (a b : Bytes)
    (ha : GV.RegionName.acceptedName a = true) (hb : GV.RegionName.acceptedName b = true) :
    (GV.RegionName.compareName a b).isFault = false := by
  obtain ⟨t1, k1, s1, rfl, h1, h3⟩ := meta_row_key_accepted_is_region_name a ha
  obtain ⟨t2, k2, s2, rfl, h2, h4⟩ := meta_row_key_accepted_is_region_name b hb
  exact GV.RegionName.compare_no_fault_wf t1 k1 s1 t2 k2 s2 h1 h2 h3 h4

/-- Regenerated from region/info.go (`i`, `j`: first and last comma): `infoFromCell` refuses a row key
with fewer than two commas (`acceptedName` false) and (fix a867439) one whose id does not start
with a digit — the location cache's search keys end in `,:` and rely on every id sorting below `:`. -/
theorem meta_row_key_checked_in_source :
    GV.Gen.Exits.metaRowKeyCheck
      = "i < 0 || j == i || j+1 == len(cell.Row) || cell.Row[j+1] < '0' || cell.Row[j+1] > '9'" :=
  rfl

/-! ## Non-vacuity: the fault branches are real and the hypotheses are satisfiable -/

def mcg (r : Nat) : Option MCall := some ⟨.get, r⟩
def m2 : Multi := ⟨[mcg 0, none, mcg 1], [0, 1]⟩
def okRoe (i : Nat) : ResultOrException := ⟨some i, some { cells := [] }, none⟩
def excRoe (i : Nat) : ResultOrException := ⟨some i, none, some ⟨some [1], none⟩⟩

/-- without validation `returnResults` does panic / block: index 0, out of range, a dropped call … -/
example : (multiReturn m2 (some ⟨[⟨[okRoe 0], none⟩]⟩) none).isFault = true := by decide
example : (multiReturn m2 (some ⟨[⟨[okRoe 4], none⟩]⟩) none).isFault = true := by decide
example : (multiReturn m2 (some ⟨[⟨[okRoe 2], none⟩]⟩) none).isFault = true := by decide
/-- … and `DeserializeCellBlocks` rejects exactly these -/
example : multiDeserialize m2 ⟨[⟨[okRoe 0], none⟩]⟩ [] = .err "no index" := by decide
example : multiDeserialize m2 ⟨[⟨[okRoe 4], none⟩]⟩ [] = .err "unexpected index" := by decide
example : multiDeserialize m2 ⟨[⟨[okRoe 2], none⟩]⟩ [] = .err "unexpected index" := by decide
example : multiDeserialize m2 ⟨[⟨[okRoe 1, okRoe 1], none⟩]⟩ [] = .err "duplicate index" := by decide
/-- a duplicate index that got through would not block (the `answered` guard), a missing one is answered -/
example : (multiReturn m2 (some ⟨[⟨[okRoe 1, okRoe 1], none⟩]⟩) none).map (·.map (·.1)) = .ok [0, 2] := by
  decide
/-- a second send is a fault -/
example : (send ⟨[], [(0, errD .fatal)]⟩ 0 (errD .fatal)).isFault = true := by decide
/-- an accepted response: call 0 answered, call 1 dropped, call 2 not mentioned → retryable -/
example : (multiDeserialize m2 ⟨[⟨[okRoe 1], none⟩]⟩ []).isOk = true := by decide
example : multiReturn m2 (some ⟨[⟨[okRoe 1], none⟩]⟩) none
    = .ok [(0, ⟨.get ⟨some { cells := [] }⟩, none⟩), (2, errD .retryable)] := by decide
/-- more region results than regions: skipped, everybody still answered -/
example : (multiReturn m2 (some ⟨[⟨[], none⟩, ⟨[], none⟩, ⟨[], some ⟨some [1], none⟩⟩]⟩) none).map (·.map (·.1))
    = .ok [0, 2] := by decide
/-- scan: unequal arrays are an error, not `partials[i]` out of range -/
example : scanDeserialize ⟨[0, 0], [true], []⟩ [] = .err "partial flags" := by decide
example : (scanLoop [] [true] 0 [0, 0] 0).isFault = true := by decide
example : (scanDeserialize ⟨[0, 0], [true, false], []⟩ []).isOk = true := by decide
/-- coalesce with a zero-cell partial result -/
example : (coalesce (some { cells := [], partialFlag := some true }) { cells := [⟨[1], [], [], 0, 4, []⟩] }).isOk
    = true := by decide
example : (cell0 []).isFault = true := by decide
/-- region info values of 0–4 bytes -/
example : infoFromCell (fun _ => none) [80, 66] = .err "region info is too short" := by decide
example : infoFromCell (fun _ => none) [] = .err "empty value" := by decide
example : infoFromCell (fun _ => some ⟨false, some ([], [])⟩) [80, 66, 85, 70] = .ok () := by decide
example : (infoFromCell (fun _ => some ⟨false, none⟩) [80, 66, 85, 70]).isFault = true := by decide
/-- `cell_block_meta.length` larger than what follows the response: an error; without the guard the
slice expression would fault (`subU32` wraps) -/
example : subU32 10 11 = 4294967295 := by decide
def fr (cbm : Nat) : Frame :=
  ⟨[0, 0, 0], 1, ⟨some 1, none, some (some cbm)⟩, some 1, { get := some ⟨some { cells := [] }⟩ }⟩
example : (fr 7).WF := by unfold Frame.WF; decide
example : receiveDecide (fun _ => some .get) false none (fr 7)
    = .ok ⟨[(0, ⟨.get ⟨some { cells := [] }⟩, some .retryable⟩)], false⟩ := by decide
example : receiveDecide (fun _ => some .get) false none (fr 4294967295)
    = .ok ⟨[(0, ⟨.get ⟨some { cells := [] }⟩, some .retryable⟩)], false⟩ := by decide
/-- a one-byte cellblock that is not read (count 0) is a short read -/
example : receiveDecide (fun _ => some .get) false none (fr 1)
    = .ok ⟨[(0, ⟨.get ⟨some { cells := [] }⟩, some .retryable⟩)], false⟩ := by decide
/-- no call id / unknown call id: the connection fails (C03) and nothing is delivered by `receive` -/
example : receiveDecide (fun _ => none) false none (fr 0) = .ok ⟨[], true⟩ := by decide

/-! ### a server-class exception inside a multi response -/

def stoppedNBP : NameBytesPair :=
  ⟨some (strBytes "org.apache.hadoop.hbase.regionserver.RegionServerStoppedException"), some [115]⟩
def ioNBP (v : String) : NameBytesPair := ⟨some (strBytes "java.io.IOException"), some (strBytes v)⟩
def excRoeOf (i : Nat) (e : NameBytesPair) : ResultOrException := ⟨some i, none, some e⟩
/-- a frame for the multi `m2` (calls 0 and 2 live, regions 0 and 1) without cellblock -/
def frM (mr : MultiResp) : Frame := ⟨[0, 0], 1, ⟨some 1, none, none⟩, some 1, { multi := some mr }⟩
def mrAction : MultiResp := ⟨[⟨[excRoeOf 1 stoppedNBP], none⟩, ⟨[okRoe 3], none⟩]⟩
def mrRegion : MultiResp := ⟨[⟨[], some stoppedNBP⟩, ⟨[okRoe 3], none⟩]⟩

/-- The classes of the exceptions in the vectors below. Evaluated once, here: every lookup turns all
names of the regenerated tables into UTF-8 bytes, by far the dearest part of evaluating a vector. -/
theorem vector_classes :
    exceptionToError (strBytes "org.apache.hadoop.hbase.regionserver.RegionServerStoppedException") [115]
      = .connErr ∧
    exceptionToError (strBytes "java.io.IOException") (strBytes "Cannot append; log is closed") = .nsre ∧
    exceptionToError (strBytes "java.io.IOException") (strBytes "other") = .fatal := by decide +kernel

theorem receive_frM (mr : MultiResp) (h : multiDeserialize m2 mr [] = .ok (mr, 0)) :
    receiveDecide (fun _ => some (.multi m2)) false none (frM mr)
      = (multiReturn m2 (some mr) none).map (fun ds => ⟨ds, serverErrorIn mr⟩) :=
  accepted_multi_connection_state _ (frM mr) 1 1 m2 mr mr 0
    (show (frM mr).WF from (by decide : 2 < two32 ∧ 1 + 1 ≤ 2)) rfl rfl rfl rfl rfl (Nat.zero_le _) h (Nat.zero_le _)

section
/- Evaluation by rewriting. `receive_frM _ rfl` takes `receive` down its accepted path (`rfl`: evaluating
`DeserializeCellBlocks` on the vector returns it unchanged); `simp` then runs `returnResults` and
`serverErrorIn` on the concrete response with this set, taking the exception classes from
`vector_classes` instead of running `strBytes` over the table names again. -/
attribute [local simp] multiReturn returnRars returnRoes mget send sweep failRegion indexed m2 mcg
  mrAction mrRegion excRoeOf okRoe stoppedNBP ioNBP errD callMsg serverErrorIn excIsServer nbpIsServer
  Outcome.bind Outcome.map vector_classes

/-- the hypotheses of `server_exception_in_multi_ends_connection` are satisfiable … -/
example : (frM mrAction).WF ∧ (frM mrAction).header.exception = none ∧
    cellsLenOf (frM mrAction).header ≤ (frM mrAction).body.length - (frM mrAction).headerLen - 1 ∧
    multiDeserialize m2 mrAction ((frM mrAction).body.drop
      ((frM mrAction).body.length - cellsLenOf (frM mrAction).header)) = .ok (mrAction, 0) ∧
    serverErrorIn mrAction = true :=
  ⟨⟨by decide, by decide⟩, rfl, by decide, rfl, by simp⟩
/-- … per action: the failed call gets its `ServerError`, the other call keeps its success, then the
connection fails -/
example : receiveDecide (fun _ => some (.multi m2)) false none (frM mrAction)
    = .ok ⟨[(0, errD .connErr), (2, ⟨.get ⟨some { cells := [] }⟩, none⟩)], true⟩ := by
  rw [receive_frM _ rfl]
  simp
/-- … for a whole region -/
example : receiveDecide (fun _ => some (.multi m2)) false none (frM mrRegion)
    = .ok ⟨[(0, errD .connErr), (2, ⟨.get ⟨some { cells := [] }⟩, none⟩)], true⟩ := by
  rw [receive_frM _ rfl]
  simp
/-- … in a region result beyond the regions of the request: nobody is told, the connection still fails -/
example : receiveDecide (fun _ => some (.multi m2)) false none
      (frM ⟨[⟨[okRoe 1], none⟩, ⟨[okRoe 3], none⟩, ⟨[], some stoppedNBP⟩]⟩)
    = .ok ⟨[(0, ⟨.get ⟨some { cells := [] }⟩, none⟩), (2, ⟨.get ⟨some { cells := [] }⟩, none⟩)], true⟩ := by
  rw [receive_frM _ rfl]
  simp
/-- `java.io.IOException` is not server-class, with ("log is closed": the region is not served) and
without the text: the connection stays in service -/
example : receiveDecide (fun _ => some (.multi m2)) false none
      (frM ⟨[⟨[excRoeOf 1 (ioNBP "Cannot append; log is closed")], none⟩, ⟨[okRoe 3], none⟩]⟩)
    = .ok ⟨[(0, errD .nsre), (2, ⟨.get ⟨some { cells := [] }⟩, none⟩)], false⟩ := by
  rw [receive_frM _ rfl]
  simp
example : receiveDecide (fun _ => some (.multi m2)) false none
      (frM ⟨[⟨[excRoeOf 1 (ioNBP "other")], none⟩, ⟨[okRoe 3], none⟩]⟩)
    = .ok ⟨[(0, errD .fatal), (2, ⟨.get ⟨some { cells := [] }⟩, none⟩)], false⟩ := by
  rw [receive_frM _ rfl]
  simp
end
/-- a rejected response (a short read: one cellblock byte nobody reads) mentions the exception in
vain: every call is told to retry, the connection stays in service -/
example : receiveDecide (fun _ => some (.multi m2)) false none
      ⟨[0, 0, 0], 1, ⟨some 1, none, some (some 1)⟩, some 1, { multi := some mrAction }⟩
    = .ok ⟨[(0, errD .retryable), (2, errD .retryable)], false⟩ := by decide +kernel
/-- without the exception nothing changes: no connection failure -/
example : receiveDecide (fun _ => some (.multi m2)) false none (frM ⟨[⟨[okRoe 1], none⟩, ⟨[okRoe 3], none⟩]⟩)
    = .ok ⟨[(0, ⟨.get ⟨some { cells := [] }⟩, none⟩), (2, ⟨.get ⟨some { cells := [] }⟩, none⟩)], false⟩ := by
  decide

end GV.C11
