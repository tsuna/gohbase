import GohbaseVerif.Lemmas.ConnFlight
/-!
After the failure of a region connection (C03): `DS` (a registered item belongs to a send still
before or in its write), `DR` (the reader is not parked in `Read`), `Good` = everything proved about
reachable states, and the frames that fail the connection after their own delivery (`Frame.fatal`).

Through `queueDirectClosing` an item can be registered on a connection that is already `done`
(registered after the failure sweep). It is completed by its own sender when that sender's write
fails (`sendFailed` finds it still registered). `DS` needs the environment guard of `step`: on a
closed connection a final `Write` cannot succeed (`Step.wroteBusy`, `Step.wrote`, `Step.armed` carry
`s.done = false`).
-/
namespace GV.Conn

/-- the send has not finished its write -/
def notWritten : Phase → Bool
  | .addWait | .lockWait | .write => true
  | .armWait | .arm => false

/-- On a failed connection every item still registered belongs to a send that has not finished its
write (its sender will find it in `sendFailed`). The last conjunct — that send is its goroutine's
only one — is `GD.whoNodup` again, carried here so that the `ds_*` lemmas need no `GD`. -/
def DS (s : St) : Prop :=
  s.done = true → ∀ p ∈ s.sent, ∃ x ∈ s.sends, x.id = p.1 ∧ notWritten x.phase = true ∧
    ∀ y ∈ s.sends, y.who = x.who → y = x

/-- when `done`: goroutine `w` has a send that is past its write, or whose item is not registered
(so `DS` does not count on that send) -/
def Detached (s : St) (w : Who) : Prop :=
  s.done = true → ∃ xf ∈ s.sends, xf.who = w ∧ (notWritten xf.phase = false ∨ ∀ p ∈ s.sent, p.1 ≠ xf.id)

theorem Detached.of_past_write {s : St} {w : Who} {x : Snd} {p : Phase} (hx : x ∈ s.sends)
    (hxw : x.who = w) (hxp : x.phase = p) (hp : notWritten p = false) : Detached s w :=
  fun _ => ⟨x, hx, hxw, Or.inl (hxp ▸ hp)⟩

theorem Detached.of_unregistered {s : St} {w : Who} {x : Snd} (hx : x ∈ s.sends) (hxw : x.who = w)
    (hn : ∀ p ∈ s.sent, p.1 ≠ x.id) : Detached s w :=
  fun _ => ⟨x, hx, hxw, Or.inr hn⟩

theorem ds_of_live {s : St} (h : s.done = false) : DS s := fun hd => by rw [h] at hd; cases hd

theorem DS.sent_nil {s : St} (h : DS s) (hd : s.done = true) (hs : s.sends = []) : s.sent = [] := by
  apply List.eq_nil_iff_forall_not_mem.2
  intro p hp
  obtain ⟨x, hx, _⟩ := h hd p hp
  rw [hs] at hx; cases hx

theorem ds_failConn {s : St} (h : DS s) : DS (failConn s) := by
  rw [failConn_eq]
  split
  · exact h
  · intro _ p hp; cases hp

theorem ds_readerFail {s : St} (h : DS s) : DS (readerFail s) :=
  ds_failConn h

theorem ds_eraseSent {s : St} (id : Nat) (h : DS s) : DS (eraseSent s id) :=
  fun hd p hp => h hd p (List.mem_filter.1 hp).1

theorem ds_sendFailed {s : St} (snd : Snd) (h : DS s) : DS (sendFailed s snd) :=
  sendFailed_cases (Q := DS) s snd
    (fun _ _ => ds_eraseSent snd.id (ds_failConn h))
    (fun _ => ds_failConn h)

theorem sent_sendFailed_ne (s : St) (snd : Snd) : ∀ p ∈ (sendFailed s snd).sent, p.1 ≠ snd.id := by
  refine sendFailed_cases (Q := fun s' => ∀ p ∈ s'.sent, p.1 ≠ snd.id) s snd ?_ ?_
  · intro it _ p hp
    have := (List.mem_filter.1 hp).2
    simpa using this
  · intro hl; exact lookupSent_none hl

theorem Detached.who_ne {s : St} {w : Who} (hc : Detached s w) (hd : s.done = true) {p : Nat × Item}
    (hp : p ∈ s.sent) {x : Snd} (hxi : x.id = p.1) (hxp : notWritten x.phase = true)
    (hxo : ∀ y ∈ s.sends, y.who = x.who → y = x) : x.who ≠ w := by
  intro hw
  obtain ⟨xf, hxf, hxfw, hxf2⟩ := hc hd
  cases hxo xf hxf (by rw [hxfw, hw])
  rcases hxf2 with h2 | h2
  · rw [hxp] at h2; cases h2
  · exact h2 p hp hxi.symm

/-- (`hc`: `g` keeps the send before or in its write, or `DS` does not count on the send of `w`) -/
theorem ds_mapW {s : St} (w : Who) (g : Snd → Snd) (h : DS s) (hgw : ∀ y, (g y).who = y.who)
    (hgi : ∀ y, (g y).id = y.id) (hc : (∀ y, notWritten (g y).phase = true) ∨ Detached s w) :
    DS { s with sends := s.sends.map (fun y => if y.who == w then g y else y) } := by
  intro hd p hp
  have hd : s.done = true := hd
  obtain ⟨x, hx, hxi, hxp, hxo⟩ := h hd p hp
  have hg' := who_ite w g hgw
  refine ⟨if x.who == w then g x else x, List.mem_map.2 ⟨x, hx, rfl⟩, ?_, ?_, ?_⟩
  · split
    · rw [hgi]; exact hxi
    · exact hxi
  · split
    · rename_i hw
      rcases hc with hc | hc
      · exact hc x
      · exact absurd (by simpa using hw) (hc.who_ne hd hp hxi hxp hxo)
    · exact hxp
  · intro y' hy' hwho
    obtain ⟨y, hy, rfl⟩ := List.mem_map.1 hy'
    rw [hg' y, hg' x] at hwho
    rw [hxo y hy hwho]

theorem ds_filterW {s : St} (w : Who) (h : DS s) (hc : Detached s w) :
    DS { s with sends := s.sends.filter (fun x => x.who != w) } := by
  intro hd p hp
  have hd : s.done = true := hd
  obtain ⟨x, hx, hxi, hxp, hxo⟩ := h hd p hp
  have hne := hc.who_ne hd hp hxi hxp hxo
  refine ⟨x, List.mem_filter.2 ⟨hx, by simpa using hne⟩, hxi, hxp, ?_⟩
  intro y hy hwho
  exact hxo y (List.mem_filter.1 hy).1 hwho

theorem ds_writerLoop {s : St} (h : DS s) : DS (writerLoop s) := by
  refine writerLoop_ind (Q := DS) s h ?_ ?_ ?_
  · intro s' h; exact h
  · intro s' _ _ hnd; exact ds_of_live hnd
  · intro s' _ _ hnd
    exact ds_of_live ((sending_startSend _ _ _).done.trans hnd)

theorem ds_finishSend {s : St} (w : Who) (h : DS s) (hc : Detached s w) : DS (finishSend s w) := by
  have h1 := ds_filterW w h hc
  exact finishSend_cases (Q := DS) s w
    (fun _ => ds_writerLoop h1) (fun _ => h1)

theorem ds_releaseWriteM {s : St} (h : DS s) : DS (releaseWriteM s) :=
  releaseWriteM_cases (Q := DS) s
    (fun x _ => ds_mapW x.who (fun y => { y with phase := .write }) h (fun _ => rfl) (fun _ => rfl)
      (Or.inl fun _ => rfl))
    h

theorem ds_senderAtM {s : St} (w : Who) (h : DS s) (hc : Detached s w) : DS (senderAtM s w) :=
  senderAtM_cases (Q := DS) s w (fun _ => ds_finishSend w h hc)
    (fun _ => ds_mapW w (fun y => { y with phase := .arm }) h (fun _ => rfl) (fun _ => rfl) (Or.inr hc))

theorem ds_senderAddN {s : St} (n : Nat) (w : Who) (h : DS s) : DS (senderAddN s n w) :=
  ds_mapW w (sndAfterAdd s) h (fun _ => rfl) (fun _ => rfl) (Or.inl fun y => by
    show notWritten (if s.writeM.isNone then Phase.write else Phase.lockWait) = true
    split <;> rfl)

theorem ds_regSend {s : St} (w : Who) (it : Item) (h : DS s) (hw : ∀ x ∈ s.sends, x.who ≠ w) :
    DS (regSend s w it) := by
  intro hd p hp
  have hd : s.done = true := hd
  rcases List.mem_append.1 hp with hp | hp
  · obtain ⟨x, hx, hxi, hxp, hxo⟩ := h hd p hp
    refine ⟨x, List.mem_append_left _ hx, hxi, hxp, ?_⟩
    intro y hy hwho
    rcases List.mem_append.1 hy with hy | hy
    · exact hxo y hy hwho
    · cases List.mem_singleton.1 hy
      exact absurd hwho.symm (hw x hx)
  · cases List.mem_singleton.1 hp
    refine ⟨newSnd s w it, List.mem_append_right _ (List.mem_singleton.2 rfl), rfl, rfl, ?_⟩
    intro y hy hwho
    rcases List.mem_append.1 hy with hy | hy
    · exact absurd hwho (hw y hy)
    · exact List.mem_singleton.1 hy

theorem ds_startSend {s : St} (w : Who) (it : Item) (h : DS s) (hw : ∀ x ∈ s.sends, x.who ≠ w) :
    DS (startSend s w it) := by
  have h1 := ds_regSend w it h hw
  rw [startSend_eq]
  split
  · exact h1
  · exact ds_senderAddN _ w h1

theorem ds_finishFrame {s : St} {id : Nat} {it : Item} {f : Frame} (h : DS s) :
    DS (finishFrame s id it f) :=
  finishFrame_cases (Q := DS) s id it f (fun _ => h) (fun _ => h) (fun _ => h)
    (fun _ => ds_readerFail h)

theorem ds_readerAtM {s : St} {id : Nat} {it : Item} {f : Frame} (h : DS s) :
    DS (readerAtM s id it f) :=
  readerAtM_cases (Q := DS) s id it f (fun _ => h) (fun _ => ds_finishFrame h)

theorem ds_releaseM {s : St} (h : DS s) : DS (releaseM s) := by
  refine wakeM_ind (Q := DS) _ s h ?_ ?_ ?_ ?_
  · intro s w rest h _ _ _
    exact ds_senderAddN _ w h
  · intro s w rest h _ _ hp
    -- a sender waiting to arm is past its write
    obtain ⟨x, hx, hxw, hxp⟩ := phaseOf_some_mem hp
    exact ds_senderAtM w h (.of_past_write hx hxw hxp rfl)
  · intro s id it f rest h _ _ _
    exact ds_readerAtM h
  · intro s e rest h _ _ _; exact h

theorem ds_step {s s' : St} (hgd : GD s) (h : DS s) (hs : Step s s') : DS s' := by
  cases hs with
  | refused | gaveUp | cancel | unsendable | wrotePart => exact h
  | batched c poison hc hx hd => exact ds_of_live ((sending_writerLoop _).done.trans hd)
  | direct c hc hx hd => exact ds_of_live ((sending_startSend _ _ _).done.trans hd)
  | directClosing c hc =>
    -- the one place where an item is registered on a failed connection
    have hfl := failed_failConn { s with handed := s.handed ++ [c] }
    exact ds_startSend _ _ (ds_failConn h)
      (fun x hx => hgd.no_direct hc x (hfl.sends ▸ hx))
  | writeErr w x hf =>
    obtain ⟨x', hx', hx'w, hx'i, _⟩ := findSend_releaseWriteM hf
    exact ds_finishSend w (ds_sendFailed x (ds_releaseWriteM h))
      (.of_unregistered (by rw [(failed_sendFailed _ _).sends]; exact hx') hx'w (hx'i ▸ sent_sendFailed_ne _ _))
  | wroteBusy w x hf hd =>
    exact ds_of_live ((sending_releaseWriteM s).done.trans hd)
  | wrote w x hf hd =>
    exact ds_of_live (((sending_senderAtM _ w).after (sending_releaseWriteM s)).done.trans hd)
  | armed w x hf hd => exact ds_releaseM (ds_of_live ((sending_finishSend _ w).done.trans hd))
  | armErr w x hf =>
    obtain ⟨hx, hxw, hxp⟩ := findSend_some hf
    exact ds_releaseM (ds_finishSend w (ds_sendFailed x h)
      (.of_past_write (by rw [(failed_sendFailed _ _).sends]; exact hx) hxw hxp rfl))
  | readerFails => exact ds_readerFail h
  | readBusy id => exact ds_eraseSent id h
  | read id it f => exact ds_readerAtM (ds_eraseSent id h)
  | cleared =>
    exact ds_releaseM (ds_finishFrame h)
  | clearErr =>
    exact ds_releaseM (ds_readerFail h)
  | closed => exact ds_failConn h

def DR (s : St) : Prop := s.done = true → s.reader ≠ .reading

/-- (the relation comes first: it fixes the state at which `h` is read, often `s` only up to the
unfolding of `DR`) -/
theorem dr_of_sending {s s' : St} (e : Sending s s') (h : DR s) : DR s' := by
  intro hd; rw [e.reader]; exact h (e.done ▸ hd)

/-- (used with `nofun`: the reader has exited, or waits or clears with a frame in its hand) -/
theorem dr_of_ne {s : St} (h : s.reader ≠ .reading) : DR s := fun _ => h

theorem DR.live {s : St} (h : DR s) (hr : s.reader = .reading) : s.done = false := by
  cases hd : s.done
  · rfl
  · exact absurd hr (h hd)

theorem dr_failConn (s : St) (h : DR s) : DR (failConn s) := by
  rw [failConn_eq]
  split
  · exact h
  · exact fun _ => s.reader.afterFail_ne_reading

theorem dr_sendFailed {s : St} (snd : Snd) (h : DR s) : DR (sendFailed s snd) :=
  sendFailed_cases (Q := DR) s snd (fun _ _ => dr_of_sending ⟨rfl, rfl⟩ (dr_failConn s h))
    (fun _ => dr_failConn s h)

theorem dr_readerNext (s : St) : s.done = true → readerNext s ≠ .reading :=
  readerNext_cases (Q := fun r => s.done = true → r ≠ .reading) s (fun _ _ => nofun)
    (fun hl hd => absurd (hd.symm.trans hl) nofun)

/-- (`h` covers the `badHeader` branch of `finishFrame`, which returns `s` and which the reader never
takes; asking for `DR s` there instead of `f ≠ .badHeader` lets `dr_releaseM` do without `GR`) -/
theorem dr_finishFrame {s : St} {id : Nat} {it : Item} {f : Frame} (h : f = .badHeader → DR s) :
    DR (finishFrame s id it f) :=
  finishFrame_cases (Q := DR) s id it f (fun _ => dr_readerNext s) h (fun _ => dr_readerNext s)
    (fun _ => dr_of_ne nofun)

theorem dr_readerAtM {s : St} {id : Nat} {it : Item} {f : Frame} (h : f = .badHeader → DR s) :
    DR (readerAtM s id it f) :=
  readerAtM_cases (Q := DR) s id it f (fun _ => dr_of_ne nofun)
    (fun _ => dr_finishFrame h)

theorem dr_releaseM {s : St} (h : DR s) : DR (releaseM s) := by
  refine wakeM_ind (Q := DR) _ s h ?_ ?_ ?_ ?_
  · intro s w rest h _ _ _; exact h
  · intro s w rest h _ _ _
    exact dr_of_sending (sending_senderAtM _ w) h
  · intro s id it f rest h _ _ _
    exact dr_readerAtM (fun _ => h)
  · intro s e rest h _ _ _; exact h

theorem dr_step {s s' : St} (hg : GR s) (h : DR s) (hs : Step s s') : DR s' := by
  have h1 : DR (releaseWriteM s) := dr_of_sending (sending_releaseWriteM s) h
  cases hs with
  | refused | gaveUp | cancel | unsendable | wrotePart => exact h
  | batched => exact dr_of_sending (sending_writerLoop _) h
  | direct => exact dr_of_sending (sending_startSend _ _ _) h
  | directClosing =>
    exact dr_of_sending (sending_startSend _ _ _) (dr_failConn { s with handed := _ } h)
  | writeErr w x => exact dr_of_sending (sending_finishSend _ _) (dr_sendFailed x h1)
  | wroteBusy => exact h1
  | wrote => exact dr_of_sending (sending_senderAtM _ _) h1
  | armed =>
    exact dr_releaseM (dr_of_sending (sending_finishSend { s with armed := true } _) h)
  | armErr w x =>
    exact dr_releaseM (dr_of_sending (sending_finishSend _ _) (dr_sendFailed x h))
  | readerFails | readBusy => exact dr_of_ne nofun
  | read id it f =>
    exact dr_readerAtM (fun _ => h)
  | cleared id it f hr =>
    have hf := (hg.held id it f (by rw [hr]; rfl)).1
    exact dr_releaseM (dr_finishFrame (fun e => absurd e hf))
  | clearErr => exact dr_releaseM (dr_of_ne nofun)
  | closed => exact dr_failConn s h

structure Good (s : St) : Prop where
  gr : GR s
  gd : GD s
  rest : Rest s
  ds : DS s
  dr : DR s

theorem good_step {s s' : St} (h : Good s) (hs : Step s s') : Good s' :=
  have hgd := gd_rest_step h.gr h.gd h.rest hs
  ⟨gr_step h.gr hs, hgd.1, hgd.2, ds_step h.gd h.ds hs, dr_step h.gr h.dr hs⟩

theorem good_init (q : Nat) : Good (init q) :=
  ⟨gr_init q, gd_init q, fun _ => rfl, ds_of_live rfl, fun hd => by cases hd⟩

theorem good_of_reachable {q : Nat} {s : St} (h : Reachable q s) : Good s :=
  reachable_ind (good_init q) good_step h

theorem fatal_ne_badHeader {f : Frame} (h : f.fatal = true) : f ≠ .badHeader := by
  intro e; subst e; simp [Frame.fatal] at h

theorem ctxEnded_multi (s : St) (cs : List Nat) : ctxEnded s (.multi cs) = false := rfl

/-- What the reader does with a `Frame.fatal` frame on a live connection: the calls of the item get
what the frame says about them, then `fail` runs. -/
theorem finishFrame_fatal {s : St} {id : Nat} {it : Item} {f : Frame}
    (hc : ctxEnded s it = false) (hf : f.fatal = true) (hd : s.done = false) :
    finishFrame s id it f =
      { s with done := true, sent := [], offered := [],
               delivered := s.delivered ++ frameDlv id it f ++ failDlv s, reader := .exited,
               writerExited := if s.writerBusy then s.writerExited else true } := by
  rw [finishFrame_eq, if_neg (by simp [hc]), if_neg (fatal_ne_badHeader hf), if_pos hf, readerFail,
    failConn_eq]
  simp [hd, failDlv, List.append_assoc]

theorem readerAtN_fatal {s : St} {n id : Nat} {it : Item} {f : Frame}
    (hc : ctxEnded s it = false) (hf : f.fatal = true) (hd : s.done = false) :
    readerAtN s n id it f =
      if n = 0 then { s with inFlight := n, reader := .clearing id it f }
      else
      { s with inFlight := n, done := true, sent := [], offered := [],
               delivered := s.delivered ++ frameDlv id it f ++ failDlv s, reader := .exited,
               writerExited := if s.writerBusy then s.writerExited else true } := by
  simp only [readerAtN]
  split
  · rfl
  · rw [finishFrame_fatal (s := { s with inFlight := n }) hc hf hd]
    rfl

theorem done_finishFrame_fatal {s : St} {id : Nat} {it : Item} {f : Frame}
    (hc : ctxEnded s it = false) (hf : f.fatal = true) : (finishFrame s id it f).done = true := by
  rw [finishFrame_eq, if_neg (by simp [hc]), if_neg (fatal_ne_badHeader hf), if_pos hf]
  exact (failed_readerFail _).done

theorem outstanding_erase {s : St} {id : Nat} {it : Item} {c : Nat}
    (hnd : (s.sent.map (·.1)).Nodup) (hl : lookupSent s id = some it)
    (hc : c ∈ outstanding s) (hn : c ∉ it.calls) : c ∈ outstanding (eraseSent s id) := by
  have := ((perm_erase hnd (lookupSent_some hl)).flatMap_right (·.2.calls)).mem_iff.1 hc
  rw [List.flatMap_cons, List.mem_append] at this
  exact this.resolve_left hn

theorem mem_failDlv_sent {s : St} {c : Nat} (hc : c ∈ outstanding s) :
    Dlv.mk c .connErr none ∈ failDlv s := by
  simp only [outstanding, List.mem_flatMap] at hc
  obtain ⟨p, hp, hcp⟩ := hc
  exact List.mem_append_left _ (List.mem_flatMap.2 ⟨p, hp, List.mem_map.2 ⟨c, hcp, rfl⟩⟩)

theorem mem_failDlv_offered {s : St} {c : Nat} (hc : c ∈ s.offered) :
    Dlv.mk c .connErr none ∈ failDlv s :=
  List.mem_append_right _ (List.mem_map.2 ⟨c, hc, rfl⟩)

/-- The reader still holds the multi `cs` with its response `f`, or the connection has failed. Only
for a multi: a single call whose own context has ended is dropped by `finishFrame` whatever the
frame says (`ctxEnded`), and then nothing fails. -/
def HeldOrDone (id : Nat) (cs : List Nat) (f : Frame) (s : St) : Prop :=
  s.reader.held = some (id, .multi cs, f) ∨ s.done = true

theorem held_fatal_releaseM {s : St} {id : Nat} {cs : List Nat} {f : Frame}
    (hh : s.reader.held = some (id, .multi cs, f)) (hf : f.fatal = true) :
    HeldOrDone id cs f (releaseM s) := by
  refine wakeM_ind (Q := HeldOrDone id cs f) _ s (Or.inl hh) ?_ ?_ ?_ ?_
  · intro s w rest h _ _ _; exact h
  · intro s w rest h _ _ _
    exact h.imp (sending_senderAtM _ w).held.trans (sending_senderAtM _ w).done.trans
  · intro s id' it' f' rest h _ _ hr
    rcases h with h | h
    · -- its turn has come: it clears the deadline with the frame in its hand, or deals with it
      rw [hr] at h; cases h
      exact readerAtM_cases (Q := HeldOrDone id cs f) _ id (.multi cs) f (fun _ => Or.inl rfl)
        (fun _ => Or.inr (done_finishFrame_fatal (ctxEnded_multi _ _) hf))
    · exact Or.inr ((ext_readerAtM id' it' f' (.refl _)).done h)
  · intro s e rest h _ _ _; exact h

theorem held_reading {s : St} {x : Nat × Item × Frame} (hh : s.reader.held = some x)
    (hr : s.reader = .reading) : False := by
  rw [hr] at hh; cases hh

theorem held_fatal_step {s s' : St} {id : Nat} {cs : List Nat} {f : Frame}
    (hh : s.reader.held = some (id, .multi cs, f)) (hf : f.fatal = true) (hs : Step s s') :
    HeldOrDone id cs f s' := by
  have h1 : (releaseWriteM s).reader.held = some (id, .multi cs, f) := by
    rw [(sending_releaseWriteM s).reader]; exact hh
  cases hs with
  | refused | gaveUp | cancel | unsendable | wrotePart => exact Or.inl hh
  | batched => exact Or.inl ((sending_writerLoop _).held.trans hh)
  | direct => exact Or.inl ((sending_startSend _ _ _).held.trans hh)
  | directClosing =>
    exact Or.inl (((sending_startSend _ _ _).held.trans (failed_failConn _).held).trans hh)
  | writeErr =>
    exact Or.inl (((sending_finishSend _ _).held.trans (failed_sendFailed _ _).held).trans h1)
  | wroteBusy => exact Or.inl h1
  | wrote => exact Or.inl ((sending_senderAtM _ _).held.trans h1)
  | armed => exact held_fatal_releaseM ((sending_finishSend _ _).held.trans hh) hf
  | armErr =>
    exact held_fatal_releaseM
      (((sending_finishSend _ _).held.trans (failed_sendFailed _ _).held).trans hh) hf
  | readerFails hr | readBusy _ _ _ hr | read _ _ _ hr => exact (held_reading hh hr).elim
  | cleared id' it' f' hr =>
    -- the reader lets go of the frame by dealing with it, and that fails the connection
    rw [hr] at hh; cases hh
    exact Or.inr ((ext_releaseM (.refl _)).done (done_finishFrame_fatal (ctxEnded_multi _ _) hf))
  | clearErr => exact Or.inr ((ext_releaseM (.refl _)).done (failed_readerFail _).done)
  | closed => exact Or.inl (by rw [(failed_failConn _).held]; exact hh)

end GV.Conn
