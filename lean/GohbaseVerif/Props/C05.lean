import GohbaseVerif.Lemmas.Frame
import GohbaseVerif.Lemmas.ToProto
/-!
# C05 — Bytes written to the server encode exactly the requested operation

The models are `Model/Frame.lean` (`sendHello`, `marshalProto`, `registerRPC`, the `Write` units of
`send`) and `Model/ToProto.lean` (`Get/Mutate/CheckAndPut/Scan.ToProto`, `multi.toProto`); the
correspondence run ties them to the Go code through a real region client writing into an
in-memory `net.Conn`.

The protobuf byte encoding is trusted and opaque: theorems that speak about structured
headers/requests take the library's contract `PBCodec.Lawful` (`Unmarshal ∘ Marshal = id`) as
a hypothesis. Size hypotheses (`< 2^32`, `< 2^64`) are the ones the wire format itself imposes.
-/
namespace GV.Frame
open GV

/-! ## Framing -/

/-- `protowire` varints round-trip for every `uint64`, whatever follows. -/
theorem varint_roundtrip (n : Nat) (rest : Bytes) (h : n < 2 ^ 64) :
    varintDec (varintEnc n ++ rest) = .ok (n, rest) :=
  varintDec_enc n rest h

theorem varint_le_10 (n : Nat) : (varintEnc n).length ≤ 10 :=
  varintEncAux_length_le 10 _

example : varintDec (varintEnc 300 ++ [7]) = .ok (300, [7]) := by decide
example : varintEnc 300 = [172, 2] := by decide

/-- A server that reads one frame off the stream gets back exactly the header payload, the
request payload and the cellblock bytes the client framed, and is left at the first byte after
the frame — for any payloads and any following bytes. -/
theorem frame_parse (h r cbs rest : Bytes) (hlen : bodyLen h r cbs < 2 ^ 32) :
    parseFrame (marshal h r cbs ++ rest) = .ok (h, r, cbs, rest) :=
  parseFrame_marshal h r cbs rest hlen

example : parseFrame (marshal [1, 2] [3] [9, 9] ++ [5]) = .ok ([1, 2], [3], [9, 9], [5]) :=
  frame_parse _ _ _ _ (by decide)

/-- The 4-byte length prefix equals the number of bytes that follow it in the frame. -/
theorem prefix_eq_rest_len (h r cbs : Bytes) (hlen : bodyLen h r cbs < 2 ^ 32) :
    beNat ((marshal h r cbs).take 4) = ((marshal h r cbs).drop 4).length := by
  rw [marshal_eq h r cbs hlen, take_toBE_append, drop_toBE_append,
    beNat_toBE_of_lt (show _ < 256 ^ 4 from hlen)]
  simp only [bodyLen, List.length_append, Nat.add_assoc]

example : bodyLen [1, 2] [3] [9, 9] = 7 := by decide

/-- Structured form of `frame_parse`, with the protobuf contract as a hypothesis: the server
recovers the call id, method name, priority, the request structure and the cellblock. -/
theorem frame_parse_msg {ρ} (ch : PBCodec ReqHeader) (cr : PBCodec ρ) (hch : ch.Lawful)
    (hcr : cr.Lawful) (callId : Nat) (method : Bytes) (priority : Nat) (req : ρ)
    (cbs rest : Bytes)
    (hlen : bodyLen (ch.marshal (mkHeader callId method priority cbs.length)) (cr.marshal req) cbs
      < 2 ^ 32) :
    parseMsg ch cr (marshalMsg ch cr callId method priority req cbs ++ rest)
      = .ok (mkHeader callId method priority cbs.length, req, cbs, rest) := by
  rw [parseMsg, marshalMsg, parseFrame_marshal _ _ _ _ hlen]
  simp only [hch _, hcr _]

/-- The header's `CellBlockMeta` is present iff the frame has trailing cellblock bytes, and
its length field is their number (so a server takes exactly the cellblock the client sent). -/
theorem meta_len_eq_cellblock_len (callId : Nat) (method : Bytes) (priority : Nat) (cbs : Bytes) :
    let hd := mkHeader callId method priority cbs.length
    metaOk hd cbs = true ∧ (hd.cellBlockMeta.isSome ↔ 0 < cbs.length) ∧
      (∀ n, hd.cellBlockMeta = some n → n = cbs.length) := by
  simp only [mkHeader, metaOk]
  by_cases h : 0 < cbs.length
  · simp [h]
  · have h0 : cbs.length = 0 := by omega
    simp [h0]

example : (mkHeader 7 [71] 0 3).cellBlockMeta = some 3 ∧ (mkHeader 7 [71] 0 0).cellBlockMeta = none :=
  by decide

/-- The stream is self-delimiting: preamble and connection header first, then any number of
frames, each found again by the reader, in order. -/
theorem stream_parse (p : Bytes) (frames : List RawFrame) (hp : p.length < 2 ^ 32)
    (hb : ∀ f ∈ frames, f.bodyLen < 2 ^ 32) :
    parseStream (hello p ++ (frames.map RawFrame.bytes).flatten) = .ok (p, frames) := by
  rw [parseStream, parseHello_hello p _ hp]
  simp only [parseFrames_flatten frames hb]

example : parseStream (hello [1] ++ ([⟨[1], [2], []⟩, ⟨[3], [], [4, 4]⟩].map RawFrame.bytes).flatten)
    = .ok ([1], [⟨[1], [2], []⟩, ⟨[3], [], [4, 4]⟩]) :=
  stream_parse _ _ (by decide) (by decide)

/-! ## Call ids -/

/-- The ids handed out on one connection (atomic increment of a `uint32` that starts at 0) are
pairwise different as long as fewer than 2^32 requests were registered; the first one is 1. -/
theorem ids_unique (n : Nat) (h : n < 2 ^ 32) : (allocIds 0 n).Nodup := by
  rw [allocIds_eq_range' 0 n (by omega)]
  exact List.nodup_range'

theorem first_id : allocIds 0 1 = [1] := by decide

example : allocIds 0 3 = [1, 2, 3] := by decide

/-- The counter wraps: after 2^32 − 1 the next id is 0, then 1, the connection's first id again
(the first repeat is registration 2^32 + 1, one later than `ids_unique` covers). -/
theorem ids_wrap : allocIds (2 ^ 32 - 1) 2 = [0, 1] := by simp [allocIds, nextId]

/-- The priority a server reads from the header (absent = 0, NORMAL) is the call's priority. -/
theorem priority_fidelity (callId : Nat) (method : Bytes) (priority cbLen : Nat) :
    (mkHeader callId method priority cbLen).priority.getD 0 = priority ∧
      (mkHeader callId method priority cbLen).callId = callId ∧
      (mkHeader callId method priority cbLen).methodName = method := by
  simp only [mkHeader]
  by_cases h : 0 < priority
  · simp [h]
  · have : priority = 0 := by omega
    simp [this]

/-! ## Several goroutines on one connection -/

/-- Each request is emitted as one atomic block of `Write` units — a single `Write` (plain
frame), a single `writev` (`*net.TCPConn`), or the units of `net.Buffers.WriteTo` on any other
`net.Conn` *under the writer mutex* (`writeM`). Then for every interleaving of
any number of senders the server reads the connection header and then whole frames: a
permutation of everything sent, each sender's own order kept. -/
theorem atomic_units_parse (k : ConnKind) (p : Bytes) (senders : List (List SendReq))
    (hp : p.length < 2 ^ 32) (hb : ∀ s ∈ senders, ∀ q ∈ s, q.raw.bodyLen < 2 ^ 32)
    (s : List (List Bytes))
    (hs : s ∈ interleavings (senders.map (List.map (SendReq.units k)))) :
    ∃ order, order ∈ interleavings senders ∧ order.Perm senders.flatten ∧
      (∀ a ∈ senders, a.Sublist order) ∧
      parseStream (hello p ++ s.flatten.flatten) = .ok (p, order.map SendReq.raw) := by
  -- an interleaving of the senders' units is the image of an interleaving of their requests
  rw [interleavings_map] at hs
  obtain ⟨order, ho, rfl⟩ := List.mem_map.mp hs
  obtain ⟨hperm, hsub⟩ := perm_sublist_of_mem_interleavings senders order ho
  refine ⟨order, ho, hperm, hsub, ?_⟩
  have e : (order.map (SendReq.units k)).flatten.flatten = ((order.map SendReq.raw).map RawFrame.bytes).flatten := by
    rw [List.flatten_flatten, List.map_map, List.map_map]
    exact congrArg _ (List.map_congr_left fun q _ => units_flatten k q)
  rw [e]
  apply stream_parse p _ hp
  intro f hf
  obtain ⟨q, hq, rfl⟩ := List.mem_map.mp hf
  obtain ⟨sd, hsd, hqs⟩ := List.mem_flatten.mp (hperm.mem_iff.mp hq)
  exact hb sd hsd q hqs

example : [([⟨[1], [2], some [[9]]⟩] : List SendReq).map (SendReq.units .other), [(⟨[3], [4], none⟩ : SendReq).units .other]]
    = [[[[0, 0, 0, 5, 1, 1, 1, 2], [9]]], [[[0, 0, 0, 4, 1, 3, 1, 4]]]] := by decide

/-- Witness senders: `wA` carries a cellblock (two `Write`s on a non-TCP connection), `wB` is a
plain frame. -/
def wA : SendReq := ⟨[1], [2], some [[0, 0, 0, 4, 1, 5, 1, 6]]⟩
def wB : SendReq := ⟨[3], [4], none⟩
/-- `wB`'s frame lands between the two writes of `wA`'s frame. -/
def wS : List Bytes := [marshalProto [1] [2] 8, marshalProto [3] [4] 0, [0, 0, 0, 4, 1, 5, 1, 6]]

/-- Without mutual exclusion the units of a frame written as ≥ 2 `Write`s can be separated by
another sender's frame, and then the server reads something else than what was sent — here
silently: `wB`'s request is swallowed as `wA`'s cells and a request nobody sent is executed.
This is why the writer mutex matters on connections that are not a `*net.TCPConn`. -/
theorem split_units_break :
    wS ∈ interleavings [wA.units .other, wB.units .other] ∧
    wA.raw.bodyLen < 2 ^ 32 ∧ wB.raw.bodyLen < 2 ^ 32 ∧
    ∃ fs, parseFrames wS.flatten = .ok fs ∧ ¬ fs.Perm [wA.raw, wB.raw] := by
  refine ⟨?_, by decide, by decide, [⟨[1], [2], [0, 0, 0, 4, 1, 3, 1, 4]⟩, ⟨[5], [6], []⟩], by decide +kernel, ?_⟩
  · simp [interleavings, interleave2, wS, SendReq.units, frameUnits, sendUnits, wA, wB]
  · intro hp
    have hm : (⟨[5], [6], []⟩ : RawFrame) ∈ [wA.raw, wB.raw] :=
      hp.mem_iff.mp (List.mem_cons_of_mem _ (List.mem_singleton.mpr rfl))
    revert hm
    decide

/-- A second interleaving of the same kind that leaves the stream unparsable. -/
theorem split_units_unparsable :
    [marshalProto [1] [2] 3, marshalProto [3] [4] 0, [9, 9, 9]]
        ∈ interleavings [(⟨[1], [2], some [[9, 9, 9]]⟩ : SendReq).units .other,
                         (⟨[3], [4], none⟩ : SendReq).units .other] ∧
    parseFrames [marshalProto [1] [2] 3, marshalProto [3] [4] 0, [9, 9, 9]].flatten
      = .err "frame-truncated-body" := by
  refine ⟨?_, by decide +kernel⟩
  simp [interleavings, interleave2, SendReq.units, frameUnits, sendUnits]

end GV.Frame

namespace GV.ToProto
open GV

/-! ## Request fidelity: decoding what `ToProto` built gives back the operation -/

/-- Get, every option combination: the server reads back row, families and qualifiers (in the
order `ord` the map happened to be ranged over), filter, time range, versions, limits, cache
blocks, consistency, existence-only and the region name. -/
theorem get_fidelity (g : GetCall) (ord : Families) (h : g.q.consistency ≠ .invalid) :
    ∃ r, getToProto g ord = .ok r ∧ Spec.decodeOp (.get r) = .get (Spec.getIntent g ord) := by
  obtain ⟨o, ho, hd⟩ := consistencyField_ok g.q.consistency h
  refine ⟨_, by simp only [getToProto, ho]; rfl, ?_⟩
  simp only [Spec.decodeOp, Spec.decodeGet, Spec.getIntent, defaultMaxVersions, defaultCacheBlocks,
    decodeColumns_familiesToColumn, Spec.decodeFrom, Spec.decodeTo, Option.bind_some, optIf_bne_getD,
    optIf_true_getD, hd]

/-- A consistency value outside the three constants makes `ToProto` panic (in the goroutine that
sends the request): the only input excluded from `get_fidelity`/`scan_fidelity`. -/
theorem get_invalid_consistency_faults (g : GetCall) (ord : Families)
    (h : g.q.consistency = .invalid) : (getToProto g ord).isFault = true := by
  simp only [getToProto, h, consistencyField_invalid, Outcome.isFault]

def exGet : GetCall :=
  { key := [114], region := [82], existsOnly := true
    q := { families := [([102], [[113]])], filter := some ⟨[70], [1]⟩, fromTs := 3, toTs := 9
           maxVersions := 5, storeLimit := 10, storeOffset := 2, priority := 200
           cacheBlocks := false, consistency := .timeline } }

example : ∃ r, getToProto exGet exGet.q.families = .ok r ∧ r.get.maxVersions = some 5 ∧
    r.get.cacheBlocks = some false ∧ r.get.consistency = some .timeline :=
  ⟨_, rfl, rfl, rfl, rfl⟩

/-- Mutate (Put / Append / Increment / Delete, every delete kind), protobuf form: row, type,
durability, timestamp, TTL and, family by family, exactly the cells the value map stands for. -/
theorem mutate_fidelity (m : MutateCall) (vals : Values) (h : m.durability < 5) :
    ∃ r, mutateToProto m vals = .ok r ∧
      Spec.decodeOp (.mutate r) = .mutate (Spec.mutateIntent m vals) := by
  refine ⟨_, by simp only [mutateToProto, mutationBase_ok m h, Outcome.map]; rfl, ?_⟩
  simp only [Spec.decodeOp, Spec.decodeMutate, Spec.decodeMutation, Spec.mutateIntent, decodeTTL_attrs, optIf_ts,
    decode_valuesToProto, Option.getD]

/-- Mutate, cellblock form (what `send` and `multi` use): the same header fields, the
associated cell count, and the cellblock buffer appended iff it is non-empty. -/
theorem mutate_cellblock_fidelity (m : MutateCall) (cb : Bytes) (count : Nat) (cbs : List Bytes)
    (h : m.durability < 5) :
    ∃ r, mutateSerialize m cb count cbs
        = .ok (r, (if 0 < cb.length then cbs ++ [cb] else cbs), cb.length) ∧
      Spec.decodeOp (.mutate r) = .mutate (Spec.mutateIntentCB m count) := by
  refine ⟨_, by simp only [mutateSerialize, mutationBase_ok m h, Outcome.map]; rfl, ?_⟩
  simp only [Spec.decodeOp, Spec.decodeMutate, Spec.decodeMutation, Spec.mutateIntentCB, Spec.mutateIntent,
    decodeTTL_attrs, optIf_ts, Option.getD, List.map_nil]

def exDel : MutateCall :=
  { key := [114], region := [82], mutType := .delete
    values := [([102], none), ([103], some [([113], [])])]
    ttl := [0, 0, 0, 0, 0, 0, 3, 232], timestamp := 77, durability := 3, deleteOneVersion := true }

example : (Spec.mutateIntent exDel exDel.values).cells =
    [([102], [⟨[], [], some 77, .deleteFamilyVersion⟩]), ([103], [⟨[113], [], some 77, .deleteOne⟩])] := by
  decide

/-- CheckAndPut: the put as above plus the condition (row, family, qualifier, EQUAL, comparator). -/
theorem cas_fidelity (c : CasCall) (vals : Values) (h : c.put.durability < 5) :
    ∃ r, casToProto c vals = .ok r ∧ Spec.decodeOp (.mutate r) = .mutate (Spec.casIntent c vals) := by
  obtain ⟨r, hr, hd⟩ := mutate_fidelity c.put vals h
  refine ⟨_, by simp only [casToProto, hr, Outcome.map]; rfl, ?_⟩
  simp only [Spec.decodeOp, Spec.decodeMutate, Spec.decodeMutation, Spec.casIntent, Spec.Op.mutate.injEq] at hd ⊢
  rw [← hd]

/-- Scan, every option combination: an opening request carries bounds, direction, families,
filter, time range, versions, limits, attributes, result size; a request with a scanner id
carries only that id (no `Scan` message); both carry number of rows, close, renew, metrics. -/
theorem scan_fidelity (s : ScanCall) (ord : Families)
    (h : s.scannerID = noScannerID → s.q.consistency ≠ .invalid) :
    ∃ r, scanToProto s ord = .ok r ∧ Spec.decodeOp (.scan r) = .scan (Spec.scanIntent s ord) := by
  by_cases hid : s.scannerID = noScannerID
  · have hb : (s.scannerID != noScannerID) = false := by simp [hid]
    obtain ⟨o, ho, hd⟩ := consistencyField_ok s.q.consistency (h hid)
    refine ⟨_, by simp only [scanToProto, hb, ho]; rfl, ?_⟩
    simp only [Spec.decodeOp, Spec.decodeScan, Spec.scanIntent, Spec.decodeScanSpec, hb, defaultMaxVersions,
      defaultCacheBlocks, decodeColumns_familiesToColumn, Spec.decodeFrom, Spec.decodeTo, Option.bind_some,
      optIf_bne_getD, optIf_true_getD, hd, Option.getD_some, Bool.false_eq_true, if_false]
  · have hb : (s.scannerID != noScannerID) = true := by simp [hid]
    refine ⟨_, by simp only [scanToProto, hb, if_true]; rfl, ?_⟩
    simp only [Spec.decodeOp, Spec.decodeScan, Spec.scanIntent, hb, if_true, Option.getD]

def exScan : ScanCall :=
  { region := [82], startRow := [97], stopRow := [122], scannerID := noScannerID
    maxResultSize := 2097152, numberOfRows := 100, reversed := true, attrs := [([97], [1])]
    trackScanMetrics := true, closeScanner := false, allowPartialResults := true, renewalScan := false
    q := { families := [], filter := none, fromTs := 0, toTs := maxTimestamp, maxVersions := 1
           storeLimit := defaultStoreLimit, storeOffset := 0, priority := 0, cacheBlocks := true
           consistency := .default } }

example : ∃ r sc, scanToProto exScan [] = .ok r ∧ r.scan = some sc ∧ sc.reversed = some true ∧
    sc.maxVersions = none ∧ sc.storeLimit = none ∧ sc.cacheBlocks = none ∧ r.scannerId = none :=
  ⟨_, _, rfl, rfl, rfl, rfl, rfl, rfl, rfl⟩

example : ∃ r, scanToProto { exScan with scannerID := 7 } [] = .ok r ∧ r.scan = none ∧
    r.scannerId = some 7 := ⟨_, rfl, rfl, rfl⟩

/-- `multi.toProto`, for every order `π` in which Go may range over the per-region map: a
server that walks the region actions in request order and hands each action the cells its
payload announces (`need`) gets, per region of `π`, the live calls of that region — batch order
kept (indices strictly increasing), index = position + 1, each with its own cells (so the
cellblock stream is in region-action order). Every live call whose region is in `π` is there,
nothing else is, and no call appears twice. -/
theorem multi_fidelity {α β} (need : α → Nat) (calls : List (MCall α β))
    (hneed : ∀ c ∈ calls, need c.msg = c.cbs.length) (π : List Region) (hπ : π.Nodup)
    (rest : List β) :
    Spec.decodeMulti need (multiToProto calls π).regionActions
        ((multiToProto calls π).cellblocks ++ rest) = .ok (Spec.multiIntent calls π, rest) ∧
    (∀ i c, calls[i]? = some c → c.cancelled = false → c.region ∈ π →
      ∃ ra ∈ Spec.multiIntent calls π, ra.1 = c.region.name ∧
        (⟨i + 1, c.msg, c.cbs⟩ : Spec.DecodedAction α β) ∈ ra.2) ∧
    (∀ ra ∈ Spec.multiIntent calls π, ∀ a ∈ ra.2,
      ∃ r ∈ π, ra.1 = r.name ∧ ∃ i c, calls[i]? = some c ∧ a.index = i + 1 ∧
        c.cancelled = false ∧ c.region = r ∧ a.msg = c.msg ∧ a.cbs = c.cbs) ∧
    ((Spec.multiIntent calls π).flatMap fun ra => ra.2.map (·.index)).Nodup ∧
    (∀ r, ((actionsOf calls r).map (·.1)).Pairwise (· < ·)) ∧
    (multiToProto calls π).regions = π :=
  ⟨decodeMulti_intent need calls hneed π rest, fun i c h hl hr => multi_complete calls π i c h hl hr,
   fun ra hra a ha => multi_sound calls π ra hra a ha, multi_once calls π hπ,
   fun r => actionsOf_sorted calls r, rfl⟩

/-- The reading of `multi_fidelity` the property asks for: payloads are Gets and mutations,
`β` is the type of cells, every mutation announces as many cells as it contributes
(`mutate_cellblock_fidelity`: `associated_cell_count = count`), a Get none. Then each action's
cells are the next `associated_cell_count` cells of the cellblock stream, in region-action order. -/
theorem multi_fidelity_cells {κ} (calls : List (MCall ActionMsg κ))
    (hcount : ∀ c ∈ calls, cellNeed c.msg = c.cbs.length) (π : List Region) (rest : List κ) :
    Spec.decodeMulti cellNeed (multiToProto calls π).regionActions
        ((multiToProto calls π).cellblocks ++ rest) = .ok (Spec.multiIntent calls π, rest) :=
  decodeMulti_intent cellNeed calls hcount π rest

def exCalls : List (MCall String Nat) :=
  [⟨false, ⟨0, [65]⟩, "put0", [10, 11], 2⟩, ⟨true, ⟨1, [66]⟩, "get1", [], 0⟩,
   ⟨false, ⟨1, [66]⟩, "put2", [20], 1⟩, ⟨false, ⟨0, [65]⟩, "get3", [], 0⟩]

example : Spec.multiIntent exCalls [⟨1, [66]⟩, ⟨0, [65]⟩] =
    [([66], [⟨3, "put2", [20]⟩]), ([65], [⟨1, "put0", [10, 11]⟩, ⟨4, "get3", []⟩])] ∧
    (multiToProto exCalls [⟨1, [66]⟩, ⟨0, [65]⟩]).cellblocks = [20, 10, 11] := by decide +kernel

end GV.ToProto
