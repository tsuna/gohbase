import GohbaseVerif.Lemmas.BatchEvents
/-!
`sendBatch` = validation + retry loop: what the validation pass writes (`validate_cons`), the three ways
`SendBatch` returns (`sendBatch_cases`), and `Run` / `Sends` at the initial state.
-/
namespace GV.Batch

/-- what the validation pass writes for call `c` when the calls `pre` come before it -/
def entrySlot (info : Info) (t0 : Nat) (pre : List Nat) (c : Nat) : Slot :=
  if c ∈ pre then ⟨none, some (.dup (firstIdx c pre))⟩
  else if info.table c ≠ t0 then ⟨none, some .tables⟩
  else if !info.batchable c then ⟨none, some .nonBatchable⟩
  else ⟨none, some .notExecuted⟩

def entryOk (info : Info) (t0 : Nat) (pre : List Nat) (c : Nat) : Bool :=
  decide (c ∉ pre) && decide (info.table c = t0) && info.batchable c

theorem validate_cons (info : Info) (t0 : Nat) (pre : List Nat) (c : Nat) (rest : List Nat) :
    validate info t0 pre (c :: rest) =
      (entrySlot info t0 pre c :: (validate info t0 (pre ++ [c]) rest).1,
       entryOk info t0 pre c && (validate info t0 (pre ++ [c]) rest).2) := by
  rw [validate, entrySlot, entryOk]
  by_cases h1 : c ∈ pre
  · simp [h1]
  · by_cases h2 : info.table c = t0
    · cases info.batchable c <;> simp [h1, h2]
    · simp [h1, h2]

theorem entrySlot_err (info : Info) (t0 : Nat) (pre : List Nat) (c : Nat) :
    (entrySlot info t0 pre c).msg = none ∧ (entrySlot info t0 pre c).err ≠ none := by
  unfold entrySlot
  split
  · exact ⟨rfl, nofun⟩
  · split
    · exact ⟨rfl, nofun⟩
    · split <;> exact ⟨rfl, nofun⟩

theorem entryOk_iff {info : Info} {t0 : Nat} {pre : List Nat} {c : Nat} :
    entryOk info t0 pre c = true ↔ c ∉ pre ∧ info.table c = t0 ∧ info.batchable c = true := by
  simp [entryOk, and_assoc]

theorem entrySlot_of_ok {info : Info} {t0 : Nat} {pre : List Nat} {c : Nat} (h : entryOk info t0 pre c = true) :
    entrySlot info t0 pre c = ⟨none, some .notExecuted⟩ := by
  obtain ⟨h1, h2, h3⟩ := entryOk_iff.mp h
  simp [entrySlot, h1, h2, h3]

theorem validate_length (info : Info) (t0 : Nat) (pre rest : List Nat) :
    (validate info t0 pre rest).1.length = rest.length := by
  induction rest generalizing pre with
  | nil => rfl
  | cons c rest ih => rw [validate_cons, List.length_cons, ih, List.length_cons]

theorem validate_ok_iff (info : Info) (t0 : Nat) (pre rest : List Nat) :
    (validate info t0 pre rest).2 = true ↔
      (∀ c ∈ rest, c ∉ pre ∧ info.table c = t0 ∧ info.batchable c = true) ∧ rest.Nodup := by
  induction rest generalizing pre with
  | nil => simp [validate]
  | cons c rest ih =>
    rw [validate_cons, Bool.and_eq_true, entryOk_iff, ih]
    simp only [List.mem_cons, forall_eq_or_imp, List.nodup_cons, List.mem_append, not_or,
      List.not_mem_nil, or_false]
    constructor
    · rintro ⟨hc, hall, hnd⟩
      refine ⟨⟨hc, fun d hd => ?_⟩, fun hcr => ?_, hnd⟩
      · obtain ⟨⟨hpre, _⟩, hd'⟩ := hall d hd
        exact ⟨hpre, hd'⟩
      · obtain ⟨⟨_, hne⟩, _⟩ := hall c hcr
        exact hne rfl
    · rintro ⟨⟨hc, hall⟩, hcr, hnd⟩
      refine ⟨hc, fun d hd => ?_, hnd⟩
      obtain ⟨hpre, hd'⟩ := hall d hd
      exact ⟨⟨hpre, fun e => hcr (e ▸ hd)⟩, hd'⟩

theorem validate_ok_slots (info : Info) (t0 : Nat) (pre rest : List Nat)
    (h : (validate info t0 pre rest).2 = true) :
    ∀ s ∈ (validate info t0 pre rest).1, s = ⟨none, some .notExecuted⟩ := by
  induction rest generalizing pre with
  | nil => exact fun _ h => nomatch h
  | cons c rest ih =>
    rw [validate_cons] at h ⊢
    obtain ⟨h1, h2⟩ := Bool.and_eq_true_iff.mp h
    intro s hs
    rcases List.mem_cons.mp hs with rfl | hs
    · exact entrySlot_of_ok h1
    · exact ih _ h2 s hs

theorem validate_getElem (info : Info) (t0 : Nat) (pre rest : List Nat) (i : Nat) (hi : i < rest.length) :
    (validate info t0 pre rest).1[i]'(by rw [validate_length]; exact hi)
      = entrySlot info t0 (pre ++ rest.take i) rest[i] := by
  induction rest generalizing pre i with
  | nil => cases hi
  | cons c rest ih =>
    simp only [validate_cons]
    cases i with
    | zero => simp
    | succ j =>
      have hj : j < rest.length := by simpa using hi
      simp only [List.getElem_cons_succ, List.take_succ_cons]
      rw [ih (pre ++ [c]) j hj]
      simp [List.append_assoc]

theorem validate_slots (info : Info) (t0 : Nat) (pre rest : List Nat) :
    ∀ s ∈ (validate info t0 pre rest).1, s.msg = none ∧ s.err ≠ none := by
  intro s hs
  obtain ⟨i, hi, rfl⟩ := List.getElem_of_mem hs
  rw [validate_getElem _ _ _ _ i (validate_length .. ▸ hi)]
  exact entrySlot_err ..

/-- A batch `SendBatch` accepts: one table, only batchable calls, no call twice. -/
def ValidBatch (info : Info) (batch : List Nat) : Prop :=
  batch.Nodup ∧ ∀ c ∈ batch, info.table c = info.table (batch.headD 0) ∧ info.batchable c = true

theorem validate_ok_iff_validBatch (info : Info) (batch : List Nat) :
    (validate info (info.table (batch.headD 0)) [] batch).2 = true ↔ ValidBatch info batch := by
  rw [validate_ok_iff]
  simp only [ValidBatch, List.not_mem_nil, not_false_eq_true, true_and]
  exact ⟨fun h => ⟨h.2, h.1⟩, fun h => ⟨h.2, h.1⟩⟩

/-- state at the first pass through the retry loop -/
def st0 (info : Info) (batch : List Nat) : St :=
  ⟨(validate info (info.table (batch.headD 0)) [] batch).1, true, false, Gen.Backoff.backoffStart, 0, []⟩

theorem sendBatch_valid {info : Info} {batch : List Nat} (hne : batch ≠ []) (hv : ValidBatch info batch)
    (rounds : List Round) : sendBatch info batch rounds = loop batch rounds 0 batch (st0 info batch) := by
  cases batch with
  | nil => exact absurd rfl hne
  | cons c0 rest =>
    have : (validate info (info.table c0) [] (c0 :: rest)).2 = true := (validate_ok_iff_validBatch info _).mpr hv
    simp [sendBatch, this, st0]

theorem sendBatch_invalid {info : Info} {batch : List Nat} (hne : batch ≠ []) (hv : ¬ ValidBatch info batch)
    (rounds : List Round) :
    sendBatch info batch rounds =
      .ok ⟨(validate info (info.table (batch.headD 0)) [] batch).1, false, [], false⟩ := by
  cases batch with
  | nil => exact absurd rfl hne
  | cons c0 rest =>
    have : (validate info (info.table c0) [] (c0 :: rest)).2 = false :=
      Bool.eq_false_iff.mpr fun h => hv ((validate_ok_iff_validBatch info _).mp h)
    simp [sendBatch, this]

theorem st0_length (info : Info) (batch : List Nat) : (st0 info batch).res.length = batch.length :=
  validate_length ..

theorem st0_getSlot {info : Info} {batch : List Nat} (hv : ValidBatch info batch) :
    ∀ c ∈ batch, getSlot batch (st0 info batch).res c = ⟨none, some .notExecuted⟩ :=
  (slots_forall_iff hv.1 (st0_length info batch) (fun s => s = ⟨none, some .notExecuted⟩)).mpr
    (validate_ok_slots _ _ _ _ ((validate_ok_iff_validBatch info batch).mpr hv))

theorem st0_book (info : Info) (batch : List Nat) : Book batch batch (st0 info batch) :=
  ⟨rfl, fun h => Bool.noConfusion h, fun ⟨_, hc, hn, _⟩ => absurd hc hn⟩

theorem sendBatch_run {info : Info} {batch : List Nat} {rounds : List Round} {R : Result} (hne : batch ≠ [])
    (hv : ValidBatch info batch) (h : sendBatch info batch rounds = .ok R) :
    Run batch rounds 0 batch (st0 info batch) R :=
  run_of_loop (fun _ hc => hc) (st0_length info batch) (sendBatch_valid hne hv rounds ▸ h)

theorem sendBatch_cases {info : Info} {batch : List Nat} {rounds : List Round} {R : Result}
    (h : sendBatch info batch rounds = .ok R) :
    (batch = [] ∧ R = ⟨[], true, [], false⟩) ∨
    (batch ≠ [] ∧ ¬ ValidBatch info batch ∧
      R = ⟨(validate info (info.table (batch.headD 0)) [] batch).1, false, [], false⟩) ∨
    (batch ≠ [] ∧ ValidBatch info batch ∧ Run batch rounds 0 batch (st0 info batch) R) := by
  by_cases hne : batch = []
  · subst hne; cases h; exact Or.inl ⟨rfl, rfl⟩
  · by_cases hv : ValidBatch info batch
    · exact Or.inr (Or.inr ⟨hne, hv, sendBatch_run hne hv h⟩)
    · rw [sendBatch_invalid hne hv] at h
      cases h; exact Or.inr (Or.inl ⟨hne, hv, rfl⟩)

theorem sendBatch_length {info : Info} {batch : List Nat} {rounds : List Round} {R : Result}
    (h : sendBatch info batch rounds = .ok R) : R.res.length = batch.length := by
  rcases sendBatch_cases h with ⟨rfl, rfl⟩ | ⟨_, _, rfl⟩ | ⟨_, _, hr⟩
  · rfl
  · exact validate_length ..
  · exact hr.length

theorem sendBatch_inv {P : Nat → Slot → Prop} {info : Info} {batch : List Nat} {rounds : List Round}
    {R : Result} (hv : ValidBatch info batch) (h : sendBatch info batch rounds = .ok R)
    (h0 : ∀ c, P c ⟨none, some .notExecuted⟩) (hr : ∀ rd ∈ rounds, RoundInv P rd)
    (i : Nat) (hi : i < batch.length) :
    P batch[i] (R.res[i]'(by rw [sendBatch_length h]; exact hi)) := by
  have hmem := List.getElem_mem hi
  have hne := List.ne_nil_of_mem hmem
  have := (sendBatch_run hne hv h).inv hr hmem (by rw [st0_getSlot hv _ hmem]; exact h0 _)
  rwa [getSlot_eq_getElem hv.1 (sendBatch_length h) i hi] at this

theorem sendBatch_sends {info : Info} {batch : List Nat} {rounds : List Round} {R : Result}
    (h : sendBatch info batch rounds = .ok R) : Sends batch R.res rounds 0 batch R.events := by
  rcases sendBatch_cases h with ⟨_, rfl⟩ | ⟨_, _, rfl⟩ | ⟨_, _, hr⟩
  · exact .done
  · exact .done
  · obtain ⟨new, hev, hs⟩ := hr.sends (fun _ hc => hc) Gen.Backoff.backoffStart_pos
    rwa [show R.events = new from hev.trans (List.nil_append _)]

theorem queuedAt_zero {info : Info} {batch : List Nat} {rd : Round} {rest : List Round} {R : Result}
    (hne : batch ≠ []) (hv : ValidBatch info batch) (h : sendBatch info batch (rd :: rest) = .ok R)
    (hany : batch.any (fun c => !locOk rd c && !ownGone rd c) = false) :
    queuedAt R.events 0 = groups rd (liveCalls rd batch) := by
  obtain ⟨new, hev, hq⟩ :=
    (sendBatch_run hne hv h).queuedAt_first (fun _ hc => hc) Gen.Backoff.backoffStart_pos hany
  rwa [show R.events = new from hev.trans (List.nil_append _)]

end GV.Batch
