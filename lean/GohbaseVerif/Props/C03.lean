import GohbaseVerif.Lemmas.ConnAfter
import GohbaseVerif.Gen.Exits
/-!
# C03 — a failing region connection completes every request exactly once

Model: `Model/Conn.lean` (one region connection as a transition system over observable events).
All theorems quantify over every reachable state, i.e. over every action sequence: every position
of the failure, every initiator (`write`/`arm` error of the writer or of a direct sender, `read`
error / bad header / unexpected id / server-side `connErr` exception seen by the reader — in a
response header or inside a decoded multi-response (`Frame.fatal`) —, `clear` error, external
`close`, `timeout`) and every interleaving.
-/
namespace GV.Conn

/-- Every call handed to the connection is in exactly one place (waiting in `offered`, inside a
registered item, in the reader's hand, delivered, dropped); a call never handed is nowhere. -/
theorem single_owner {q : Nat} {s : St} (h : Reachable q s) :
    (∀ c ∈ s.handed, places s c = 1) ∧ (∀ c, c ∉ s.handed → places s c = 0) := by
  have g := gr_of_reachable h
  constructor
  · intro c hc
    rw [g.places, g.go.handedNodup.count, if_pos hc]
  · intro c hc
    rw [g.places, List.count_eq_zero_of_not_mem hc]

example : ∃ s, run (init 2) [.queueDirect 1, .queueBatched 2, .queueBatched 3, .write (.direct 1) true .ok,
      .read 1 .result, .cancel 3, .queueUnsendable 5] = some s ∧
    s.handed = [1, 2, 3, 5] ∧ deliveredCount s 5 = 1 ∧ places s 5 = 1 ∧ s.dropped = [3] ∧ outstanding s = [2] ∧ s.reader.calls = [1] ∧
    places s 1 = 1 ∧ places s 2 = 1 ∧ places s 3 = 1 ∧ places s 4 = 0 := by
  refine ⟨_, rfl, ?_⟩
  decide

/-- No call is ever completed twice. -/
theorem at_most_once {q : Nat} {s : St} (h : Reachable q s) : ∀ c, deliveredCount s c ≤ 1 := by
  intro c
  have g := gr_of_reachable h
  have := g.places c
  have := List.nodup_iff_count.1 g.go.handedNodup c
  simp only [places] at *; omega

/-- several failure initiators (external close, then the write errors of the direct sender and of
the writer, which both call `fail` and then look for their item): still one result per call -/
example : ∃ s, run (init 2) [.queueDirect 1, .queueBatched 2, .close, .write (.direct 1) true .err,
      .write .writer true .err, .close] = some s ∧
    s.done = true ∧ deliveredCount s 1 = 1 ∧ deliveredCount s 2 = 1 := by
  refine ⟨_, rfl, ?_⟩
  decide

/-- Once the connection has failed and every goroutine has come to rest, every call ever handed
to it has been completed exactly once, unless it was given up because its own context had ended. -/
theorem no_stranding {q : Nat} {s : St} (h : Reachable q s) (hd : s.done = true)
    (hq : quiescent s = true) : ∀ c ∈ s.handed, deliveredCount s c = 1 ∨ c ∈ s.dropped := by
  intro c hc
  have h1 := (single_owner h).1 c hc
  obtain ⟨hsn, ho, hrd⟩ := of_quiescent hq
  -- a registered item would belong to a send still in progress, and there is none
  have hs : s.sent = [] := (good_of_reachable h).ds.sent_nil hd hsn
  have hr : s.reader.calls = [] := by
    rcases hrd with e | e <;> rw [e] <;> rfl
  simp only [places, outstanding, hs, ho, hr, List.flatMap_nil, List.count_nil] at h1
  by_cases hdc : deliveredCount s c = 1
  · exact Or.inl hdc
  · exact Or.inr (List.count_pos_iff.1 (by omega))

example : ∃ s, run (init 2) [.queueDirect 1, .queueBatched 2, .queueBatched 3, .cancel 3, .cancel 4,
      .queueDirect 4, .write (.direct 1) true .ok, .arm (.direct 1) .ok, .timeout,
      .write .writer true .err] = some s ∧
    s.done = true ∧ quiescent s = true ∧ s.handed = [1, 2, 3, 4] ∧
    deliveredCount s 1 = 1 ∧ deliveredCount s 2 = 1 ∧ deliveredCount s 3 = 0 ∧ s.dropped = [3, 4] := by
  refine ⟨_, rfl, ?_⟩
  decide

/-- a call registered *after* the failure sweep (`queueDirectClosing 2`: `Close()` runs while the
request is being serialised) is completed by its own sender when its write fails — the only
possible outcome of a `Write` on the closed connection (`.write … .ok` is not enabled) -/
example : ∃ s, run (init 2) [.queueDirect 1, .queueDirectClosing 2, .write (.direct 1) true .err,
      .write (.direct 2) true .err] = some s ∧
    s.done = true ∧ quiescent s = true ∧ s.handed = [1, 2] ∧ s.sent = [] ∧
    deliveredCount s 1 = 1 ∧ deliveredCount s 2 = 1 ∧
    s.delivered = [⟨1, .connErr, none⟩, ⟨2, .connErr, none⟩] := by
  refine ⟨_, rfl, ?_⟩
  decide

example : ∃ s, run (init 2) [.queueDirect 1, .queueDirectClosing 2, .write (.direct 1) true .err] = some s ∧
    s.done = true ∧ s.sent = [(2, .single 2)] ∧ deliveredCount s 2 = 0 ∧
    step s (.write (.direct 2) true .ok) = none ∧ step s (.write (.direct 2) false .ok) = none := by
  refine ⟨_, rfl, ?_⟩
  decide

/-- A call is given up without a result only if its own context has ended. -/
theorem dropped_only_if_ctx_done {q : Nat} {s : St} (h : Reachable q s) :
    ∀ c ∈ s.dropped, c ∈ s.ctxDone := (gr_of_reachable h).go.droppedCtx

example : ∃ s, run (init 2) [.queueBatched 1, .queueBatched 2, .cancel 2, .cancel 3, .queueDirect 3] = some s ∧
    s.dropped = [2, 3] ∧ s.ctxDone = [2, 3] := by
  refine ⟨_, rfl, ?_⟩
  decide

/-- Every result produced locally (not derived from a response frame) is a connection-level
error — or the marshalling error of a call whose request could not be built (`unsendable`);
conversely every unsendable call has been completed with exactly that error. -/
theorem failure_delivers_connErr {q : Nat} {s : St} (h : Reachable q s) :
    (∀ d ∈ s.delivered, d.src = none →
      d.res = .connErr ∨ (d.res = .fatal ∧ d.call ∈ s.unsendable)) ∧
    (∀ c ∈ s.unsendable, Dlv.mk c .fatal none ∈ s.delivered ∧ deliveredCount s c = 1) := by
  have g := gr_of_reachable h
  exact ⟨g.go.srcNone, fun c hc => ⟨g.go.unsFatal c hc, g.delivered_once (g.go.unsFatal c hc)⟩⟩

example : ∃ s, run (init 2) [.queueDirect 1, .queueUnsendable 4, .queueBatched 2, .close, .queueDirect 3,
      .queueUnsendable 5] = some s ∧
    s.delivered = [⟨4, .fatal, none⟩, ⟨1, .connErr, none⟩, ⟨2, .connErr, none⟩, ⟨3, .connErr, none⟩,
      ⟨5, .connErr, none⟩] ∧ s.unsendable = [4] := by
  refine ⟨_, rfl, ?_⟩
  decide

/-- a poisoned batch: call 3 cannot be marshalled, so the whole multi `[3, 4]` formed while the
writer was busy is completed locally with the marshalling error (one id consumed, nothing sent) -/
example : ∃ s, run (init 2) [.queueBatched 2, .queueBatchedUnsendable 3, .queueBatched 4,
      .write .writer true .ok, .arm .writer .ok] = some s ∧
    s.delivered = [⟨3, .fatal, none⟩, ⟨4, .fatal, none⟩] ∧ s.unsendable = [3, 4] ∧
    s.sent = [(1, .multi [2])] ∧ s.nextId = 2 ∧ s.offered = [] ∧ s.sends = [] ∧
    places s 3 = 1 ∧ places s 4 = 1 := by
  refine ⟨_, rfl, ?_⟩
  decide

/-- After the failure, a call handed to the connection (through any of the five entry points) is
refused at once with a connection-level error, and nothing else changes. -/
theorem refused_after_done {s : St} {c : Nat} (hd : s.done = true) (hc : c ∉ s.handed)
    (hx : c ∉ s.ctxDone) :
    step s (.queueDirect c) =
        some { s with handed := s.handed ++ [c], delivered := s.delivered ++ [⟨c, .connErr, none⟩] } ∧
    step s (.queueBatched c) =
        some { s with handed := s.handed ++ [c], delivered := s.delivered ++ [⟨c, .connErr, none⟩] } ∧
    step s (.queueUnsendable c) =
        some { s with handed := s.handed ++ [c], delivered := s.delivered ++ [⟨c, .connErr, none⟩] } ∧
    step s (.queueDirectClosing c) =
        some { s with handed := s.handed ++ [c], delivered := s.delivered ++ [⟨c, .connErr, none⟩] } ∧
    step s (.queueBatchedUnsendable c) =
        some { s with handed := s.handed ++ [c], delivered := s.delivered ++ [⟨c, .connErr, none⟩] } := by
  simp [step, hd, hc, hx]

/-- (with the call's own context ended as well the Go `select` chooses at random between refusing
and dropping; the model excludes that input for every entry point) -/
theorem refused_excluded_when_ctx_ended {s : St} {c : Nat} (hd : s.done = true) (hc : c ∉ s.handed)
    (hx : c ∈ s.ctxDone) :
    step s (.queueDirect c) = none ∧ step s (.queueBatched c) = none ∧
    step s (.queueUnsendable c) = none ∧ step s (.queueDirectClosing c) = none ∧
    step s (.queueBatchedUnsendable c) = none := by
  simp [step, hd, hc, hx]

example : ∃ s, run (init 2) [.queueDirect 1, .readErr] = some s ∧ s.done = true ∧ 2 ∉ s.handed ∧
    2 ∉ s.ctxDone := by
  refine ⟨_, rfl, ?_⟩
  decide

/-- A multi-response that decodes, but in which the server says — for a whole region or for a
single action — that it is not in service (some call's result is `connErr`: `Frame.fatal`), is
dealt with like such an exception in a response header. When the reader can settle the in-flight
counter at once and other requests are still in flight, all of it happens within the `read` event:
every call of the multi gets what the response says about it (exactly one result each), then the
connection is failed — `done`, nothing left registered or queued, the reader gone — and every
*other* outstanding request (registered, or still waiting to be batched) is completed with a
connection-level error, exactly once. Otherwise the reader is parked with the frame in its hand
(waiting for `inFlightM` behind a sender that is arming the read deadline, or inside its own
clearing `SetReadDeadline`), nothing has been delivered yet, and
`server_exception_in_multi_not_forgotten` below says that it ends the same way. -/
theorem server_exception_in_multi_fails_connection {q : Nat} {s s' : St} {id : Nat} {cs : List Nat}
    {rs : List (Nat × Res)} (h : Reachable q s)
    (hl : lookupSent s id = some (.multi cs))
    (hf : rs.any (fun p => p.2 == .connErr) = true)
    (hs : step s (.read id (.perCall rs)) = some s') :
    (s'.done = false ∧ s'.reader.held = some (id, .multi cs, .perCall rs) ∧
      s'.delivered = s.delivered) ∨
    (s'.done = true ∧ s'.sent = [] ∧ s'.offered = [] ∧ s'.reader = .exited ∧
      s'.delivered =
        s.delivered ++ frameDlv id (.multi cs) (.perCall rs) ++ failDlv (eraseSent s id) ∧
      (∀ c ∈ cs, deliveredCount s' c = 1 ∧
        Dlv.mk c (((rs.find? (·.1 == c)).map (·.2)).getD .retryable) (some id) ∈ s'.delivered) ∧
      (∀ c, (c ∈ outstanding s ∧ c ∉ cs) ∨ c ∈ s.offered →
        deliveredCount s' c = 1 ∧ Dlv.mk c .connErr none ∈ s'.delivered)) := by
  have hfat : (Frame.perCall rs).fatal = true := hf
  have g := good_of_reachable h
  have hnd := g.gr.go.idsNodup
  have once : ∀ {d : Dlv}, d ∈ s'.delivered → deliveredCount s' d.call = 1 ∧ d ∈ s'.delivered :=
    fun hm => ⟨(gr_of_reachable (reachable_step h hs)).delivered_once hm, hm⟩
  obtain ⟨hr, e⟩ := step_read_some hs nofun hl
  clear hs
  -- the reader is parked in `Read`, so the connection has not failed yet
  have hd : s.done = false := g.dr.live hr
  split at e
  · subst e
    exact Or.inl ⟨hd, rfl, rfl⟩
  · subst e
    rw [readerAtM_eq, readerAtN_fatal (s := eraseSent s id) (ctxEnded_multi _ _) hfat hd] at once ⊢
    split
    · exact Or.inl ⟨hd, rfl, rfl⟩
    · rename_i h0
      rw [if_neg h0] at once
      refine Or.inr ⟨rfl, rfl, rfl, rfl, rfl, fun c hc => ?_, fun c hc => ?_⟩
      · exact once (List.mem_append_left _ (List.mem_append_right _ (List.mem_map.2 ⟨c, hc, rfl⟩)))
      · refine once (d := ⟨c, .connErr, none⟩) (List.mem_append_right _ ?_)
        rcases hc with ⟨ho, hn⟩ | ho
        · exact mem_failDlv_sent (outstanding_erase hnd hl ho hn)
        · exact mem_failDlv_offered (s := eraseSent s id) ho

/-- The reader does not forget such a frame: from one event to the next — whatever the event —
it still holds the multi with its response, or the connection has been failed. (It lets go of it
only by dealing with it — `clear` returning, or the hand-off of `inFlightM` when the arming sender
is through — and that fails the connection; the multi's own context never ends.) -/
theorem server_exception_in_multi_not_forgotten {q : Nat} {s s' : St} {a : Act} {id : Nat}
    {cs : List Nat} {f : Frame} (_h : Reachable q s)
    (hh : s.reader.held = some (id, .multi cs, f)) (hf : f.fatal = true)
    (hs : step s a = some s') :
    s'.reader.held = some (id, .multi cs, f) ∨ s'.done = true :=
  held_fatal_step hh hf (step_cases hs)

/-- The multi [1] and the multi [2, 3] are outstanding, a third multi [4] is being written: the
response to [2, 3] says "server stopped" for action 2 and answers action 3. 2 and 3 get their own
results, 1 and 4 the connection-level error; the connection is done and the write of the third
multi can only fail … -/
example : ∃ s, run (init 2) [.queueBatched 1, .queueBatched 2, .queueBatched 3,
      .write .writer true .ok, .arm .writer .ok, .write .writer true .ok, .arm .writer .ok,
      .queueBatched 4, .read 2 (.perCall [(2, .connErr), (3, .ok)])] = some s ∧
    s.done = true ∧ s.sent = [] ∧ s.reader = .exited ∧
    s.delivered = [⟨2, .connErr, some 2⟩, ⟨3, .ok, some 2⟩, ⟨1, .connErr, none⟩,
      ⟨4, .connErr, none⟩] ∧
    step s (.write .writer true .ok) = none := by
  refine ⟨_, rfl, ?_⟩
  decide

/-- … which completes nothing a second time and leaves everything at rest; a new call is refused -/
example : ∃ s, run (init 2) [.queueBatched 1, .queueBatched 2, .queueBatched 3,
      .write .writer true .ok, .arm .writer .ok, .write .writer true .ok, .arm .writer .ok,
      .queueBatched 4, .read 2 (.perCall [(2, .connErr), (3, .ok)]), .write .writer true .err,
      .queueDirect 6] = some s ∧
    s.done = true ∧ quiescent s = true ∧
    s.delivered = [⟨2, .connErr, some 2⟩, ⟨3, .ok, some 2⟩, ⟨1, .connErr, none⟩,
      ⟨4, .connErr, none⟩, ⟨6, .connErr, none⟩] := by
  refine ⟨_, rfl, ?_⟩
  decide

/-- the hypotheses of `server_exception_in_multi_fails_connection` are satisfiable, in its second
case (the connection is failed within the `read` event) … -/
example : ∃ s s', Reachable 2 s ∧ lookupSent s 2 = some (.multi [2, 3]) ∧
    step s (.read 2 (.perCall [(2, .connErr), (3, .ok)])) = some s' ∧ s'.done = true ∧
    outstanding s = [1, 2, 3, 4] ∧ s.offered = [] ∧ deliveredCount s' 1 = 1 ∧
    deliveredCount s' 4 = 1 := by
  refine ⟨_, _, ⟨[.queueBatched 1, .queueBatched 2, .queueBatched 3,
      .write .writer true .ok, .arm .writer .ok, .write .writer true .ok, .arm .writer .ok,
      .queueBatched 4], rfl⟩, ?_, rfl, ?_⟩
  · decide
  · decide

/-- … and in its first: the multi is the only outstanding request, so the reader first clears the
read deadline with the frame in its hand (nothing delivered yet); `clear` then delivers and fails
the connection (`server_exception_in_multi_not_forgotten`) — here with the exception of a whole
region (both calls `connErr`). -/
example : ∃ s s' s'', run (init 2) [.queueBatched 1, .queueBatched 2, .queueBatched 3,
      .write .writer true .ok, .arm .writer .ok, .write .writer true .ok, .arm .writer .ok,
      .read 1 (.perCall [(1, .nsre)])] = some s ∧
    step s (.read 2 (.perCall [(2, .connErr), (3, .connErr)])) = some s' ∧
    step s' (.clear .ok) = some s'' ∧
    lookupSent s 2 = some (.multi [2, 3]) ∧
    s'.done = false ∧ s'.delivered = s.delivered ∧
    s'.reader.held = some (2, .multi [2, 3], .perCall [(2, .connErr), (3, .connErr)]) ∧
    s''.done = true ∧ s''.reader = .exited ∧
    s''.delivered = [⟨1, .nsre, some 1⟩, ⟨2, .connErr, some 2⟩, ⟨3, .connErr, some 2⟩] := by
  refine ⟨_, _, _, rfl, rfl, rfl, ?_⟩
  decide

/-- position of the first occurrence -/
def posOf (x : String) : List String → Nat
  | [] => 0
  | y :: ys => if y == x then 0 else posOf x ys + 1

/-- Regenerated from region/client.go: inside `fail`, `done` is closed first, then the connection
is closed, and only then is the `sent` map swept (`failSentRPCs`).  The model's single `fail` step
and its environment assumption "a Write that completes after the failure transition reports an
error" rest on exactly this order: a call registered *after* the sweep then meets a closed
connection and is completed by its own sender (`no_stranding`); with the sweep before the close it
could be written successfully and nobody would ever complete it. -/
theorem fail_closes_before_sweeping_in_source :
    GV.Gen.Exits.failCalls.contains "close(c.done)" = true ∧
    posOf "close(c.done)" GV.Gen.Exits.failCalls < posOf "conn.Close" GV.Gen.Exits.failCalls ∧
    posOf "conn.Close" GV.Gen.Exits.failCalls < posOf "c.failSentRPCs" GV.Gen.Exits.failCalls ∧
    posOf "c.failSentRPCs" GV.Gen.Exits.failCalls < GV.Gen.Exits.failCalls.length := by decide +kernel

end GV.Conn
