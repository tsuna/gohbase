import GohbaseVerif.Basic
/-!
Reasoning about `Outcome` without unfolding it. The models spell out the three-way `match` on an
outcome instead of using `bind`, so the rule for sequencing is an eliminator (`Safe.elim`), applied
to whatever the goal does with the outcome. Where a model does use `bind` / `map`: `isFault_bind`,
`isFault_ite`, `isFault_map`, and the inversions `bind_eq_ok`, `map_eq_ok`.
-/
namespace GV.Outcome
variable {α β : Type}

/-- `o` is not a fault, and a value it returns satisfies `P` (an `err` is always acceptable). -/
def Safe (o : Outcome α) (P : α → Prop) : Prop :=
  match o with
  | .ok a => P a
  | .err _ => True
  | .fault _ => False

@[simp] theorem safe_ok {a : α} {P : α → Prop} : (Outcome.ok a).Safe P ↔ P a := Iff.rfl
@[simp] theorem safe_err {e : String} {P : α → Prop} : (Outcome.err e : Outcome α).Safe P ↔ True := Iff.rfl
@[simp] theorem safe_fault {w : String} {P : α → Prop} : (Outcome.fault w : Outcome α).Safe P ↔ False :=
  Iff.rfl

namespace Safe
variable {P Q : α → Prop} {o : Outcome α}

/-- What follows an outcome known to be safe has two cases to consider, not three.
Used as `refine (foo_safe …).elim (fun (a, n) h => ?_) (fun _ => trivial)`: an eliminator, so `apply`
cannot elaborate it; the `ok` arm takes its pair apart so that the `match` around it reduces; and before
the next `elim` in a chain comes `dsimp only`, which brings the next scrutinee out from under that pattern. -/
@[elab_as_elim]
theorem elim {motive : Outcome α → Prop} (h : o.Safe P)
    (ok : ∀ a, P a → motive (.ok a)) (err : ∀ e, motive (.err e)) : motive o := by
  cases o with
  | ok a => exact ok a h
  | err e => exact err e
  | fault w => exact False.elim h

theorem isFault (h : o.Safe P) : o.isFault = false :=
  h.elim (fun _ _ => rfl) (fun _ => rfl)

theorem of_ok {a : α} (h : o.Safe P) (ho : o = .ok a) : P a := by
  subst ho; exact h

theorem mono (h : o.Safe P) (hPQ : ∀ a, P a → Q a) : o.Safe Q :=
  h.elim (fun a ha => hPQ a ha) (fun _ => trivial)

theorem of_isFault (h : o.isFault = false) : o.Safe (fun _ => True) := by
  cases o with
  | ok a => trivial
  | err e => trivial
  | fault w => cases h

/-- A guard that returns an error. -/
theorem ite_err {c : Prop} [Decidable c] {e : String} (h : ¬c → o.Safe P) :
    (if c then .err e else o).Safe P := by
  split
  · trivial
  · exact h ‹_›

theorem map {f : α → β} {R : β → Prop} (h : o.Safe (fun a => R (f a))) : (o.map f).Safe R :=
  h.elim (fun _ ha => ha) (fun _ => trivial)

end Safe

theorem isFault_bind {x : Outcome α} {f : α → Outcome β} (hx : x.isFault = false)
    (hf : ∀ a, x = .ok a → (f a).isFault = false) : (x.bind f).isFault = false := by
  cases x with
  | ok a => exact hf a rfl
  | err e => rfl
  | fault w => cases hx

theorem isFault_ite {c : Prop} [Decidable c] {x y : Outcome α} (hx : c → x.isFault = false)
    (hy : ¬c → y.isFault = false) : (if c then x else y).isFault = false := by
  split
  · exact hx ‹_›
  · exact hy ‹_›

theorem isFault_map (x : Outcome α) (f : α → β) : (x.map f).isFault = x.isFault := by
  cases x <;> rfl

theorem bind_eq_ok {x : Outcome α} {f : α → Outcome β} {b : β} (h : x.bind f = .ok b) :
    ∃ a, x = .ok a ∧ f a = .ok b := by
  cases x with
  | ok a => exact ⟨a, rfl, h⟩
  | err e => cases h
  | fault w => cases h

theorem map_eq_ok {x : Outcome α} {f : α → β} {b : β} (h : x.map f = .ok b) :
    ∃ a, x = .ok a ∧ f a = b := by
  cases x with
  | ok a => exact ⟨a, rfl, by cases h; rfl⟩
  | err e => cases h
  | fault w => cases h

end GV.Outcome
