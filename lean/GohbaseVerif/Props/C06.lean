import GohbaseVerif.Lemmas.ScannerWalk
/-!
# C06 — a scan returns exactly the rows in range, in order, whole, once

Model: `Model/Scanner.lean` (tied to `/repo/scanner.go` by the correspondence run `c06`).
Environment: `Conforming` (`Env.Scan`, DESIGN §5) — the acceptor `Srv.step` says what a
regionserver cluster holding `table`, split at `splits`, may answer: for every open request the
rows of (region containing the start row) ∩ range, in scan order, cut into responses and partial
fragments in *any* way (`chunk`), heartbeats, `more_results_in_region = false` only with nothing
left in the region, `more_results = false` only with nothing left at all (the region scanner may
then still be open).

The theorems hold for every table, layout, range, direction and every conforming script `R`;
they say nothing about scans the user made with `CloseScanner()` (`sc.closing`), which are
outside the property's quantifier (the server closes the region scanner after the first
response, so a second request for the same region fails).
-/
namespace GV.Scanner
open GV

/-- The padding used for reversed scans is eight `0xff` bytes (regenerated from the source). -/
theorem padding_is_eight_ff : Gen.Wire.rowPadding = List.replicate 8 255 := by decide

/-- However a conforming server cuts the rows `T` into partial fragments,
`Next` glues them back: each row comes out whole (all its cells, in order), exactly once. -/
theorem coalesce_row (T : List (List Cell)) (fs : List Frag) (hT : RowsOk T)
    (h : chunk T fs = some []) : assembleAll none fs = T.map (fun r => ⟨r, false⟩) :=
  assemble_chunk T fs hT h

/-- For every table, region layout, range and direction, against every
conforming script of responses (any rows per response, any cut into partial fragments,
heartbeats, early or separate "no more in region", "no more results" with the region scanner
open or closed), calling `Next` until it fails returns exactly the rows whose key lies in the
range, in scan order, each exactly once and whole — and then `io.EOF`. -/
theorem scan_exact {table : List Row} {splits : List Bytes} {sc : Scan} (H : ScanHyps table splits sc)
    (R : List Reply) (hconf : Conforming table splits sc (collect sc R).2.1.log.reverse)
    (hnp : sc.allowPartial = false) :
    (collect sc R).1 = (inRange sc table).map (fun r => Item.ok ⟨r.frag, false⟩) ++ [Item.eof] := by
  obtain ⟨hok, hch⟩ := conforming_walk H R hconf
  obtain ⟨-, -, hcuts⟩ := collect_spec sc R
  rw [hcuts _ (cutsAll_assembleAll hnp) hok, coalesce_row _ _ (inRange_rowsOk H) hch]
  simp [List.map_map, Function.comp_def]

/-- With `AllowPartialResults` the results are the fragments as the
server cut them — a fragmentation of exactly the rows in range, in scan order: every result
is a non-empty run of cells of one row, flagged partial iff cells of that row follow, and
concatenating the results gives the rows' cells, in order, each exactly once. -/
theorem fragments_concat {table : List Row} {splits : List Bytes} {sc : Scan} (H : ScanHyps table splits sc)
    (R : List Reply) (hconf : Conforming table splits sc (collect sc R).2.1.log.reverse)
    (hp : sc.allowPartial = true) :
    ∃ frs, (collect sc R).1 = frs.map Item.ok ++ [Item.eof] ∧
      chunk ((inRange sc table).map Row.frag) frs = some [] ∧
      frs.flatMap (·.cells) = ((inRange sc table).map Row.frag).flatten := by
  obtain ⟨hok, hch⟩ := conforming_walk H R hconf
  obtain ⟨-, -, hcuts⟩ := collect_spec sc R
  refine ⟨_, hcuts id (cutsAll_id hp) hok, hch, ?_⟩
  simpa using chunk_concat _ _ _ hch

/-- **Termination**: `Next` always returns (its loop bound is never exhausted). -/
theorem next_terminates (sc : Scan) (acc : Option Frag) (R : List Reply) (s : St) :
    (nextLoop sc (measure R s + 1) acc R s).isSome :=
  nextLoop_isSome sc _ acc R s (future_lt sc R s)

theorem next_fuel_irrelevant (sc : Scan) (fuel : Nat) (acc : Option Frag) (R : List Reply) (s : St)
    (h : measure R s < fuel) :
    nextLoop sc fuel acc R s = nextLoop sc (measure R s + 1) acc R s := by
  obtain ⟨x, hx⟩ := Option.isSome_iff_exists.mp (next_terminates sc acc R s)
  rw [hx]
  obtain ⟨k, rfl⟩ : ∃ k, fuel = measure R s + 1 + k := ⟨fuel - (measure R s + 1), by omega⟩
  clear h
  induction k with
  | zero => exact hx
  | succ k ih => exact nextLoop_mono sc _ acc R s x ih

/-- A complete run ends: after at most `measure R (St.init sc) + 1` calls the scanner is closed. -/
theorem collect_terminates (sc : Scan) (R : List Reply) : (collect sc R).2.1.closed = true :=
  (collect_spec sc R).1

/-- The panic in `openRegionScanner` is dead code: `update` only calls it when no region
scanner is open. -/
theorem update_never_panics (sc : Scan) (s : St) (r : Resp) (g : Region) :
    updateO sc s r g = .ok (update sc s r g) := by
  unfold updateO update openRegionScannerO
  cases h1 : s.curId <;> cases h2 : r.scannerId <;> simp

/-- `prevKey` is what reversed scans rely on: a key free of `rowPadding` is below a region start key
`rsk` iff it is at most `prevKey rsk` (`prevKey rsk` itself may end in the padding). -/
theorem prevKey_greatest_below (rsk k : Bytes) (hr : rsk ≠ []) (hk : hasPadding k = false) :
    blt k rsk = ble k (prevKey rsk) := blt_iff_ble_prevKey rsk k hr hk

/-! ### Non-vacuity: a two-region table, a reversed scan whose second request uses the padded
start row, fragments, a heartbeat and "no more results" with the region scanner still open. -/

def exTable : List Row := [⟨[0x61], [0, 1]⟩, ⟨[0x62], [0]⟩, ⟨[0x63], [0, 1]⟩]
def exSplits : List Bytes := [[0x62, 0x00]]
def exScan : Scan := ⟨[0x7a], [], true, false, false, 2⟩
def exReplies : List Reply :=
  [ .resp ⟨[0x62, 0x00], []⟩ ⟨[⟨[⟨[0x63], 0⟩], true⟩], some 5, true, true⟩,
    .resp ⟨[0x62, 0x00], []⟩ ⟨[], some 5, true, true⟩,
    .resp ⟨[0x62, 0x00], []⟩ ⟨[⟨[⟨[0x63], 1⟩], false⟩], some 5, false, true⟩,
    .resp ⟨[], [0x62, 0x00]⟩ ⟨[⟨[⟨[0x62], 0⟩], false⟩, ⟨[⟨[0x61], 0⟩, ⟨[0x61], 1⟩], false⟩], some 6, true, false⟩ ]

example : ScanHyps exTable exSplits exScan :=
  ⟨by decide, by decide, by decide, by decide, by decide, by decide⟩

example : Conforming exTable exSplits exScan (collect exScan exReplies).2.1.log.reverse := by decide +kernel

example : (collect exScan exReplies).1 =
    [Item.ok ⟨[⟨[0x63], 0⟩, ⟨[0x63], 1⟩], false⟩, Item.ok ⟨[⟨[0x62], 0⟩], false⟩,
     Item.ok ⟨[⟨[0x61], 0⟩, ⟨[0x61], 1⟩], false⟩, Item.eof] := by decide +kernel

example : ((collect exScan exReplies).2.1.trace.map (·.startRow)) =
    [[0x7a], [0x7a], [0x7a], [0x62], [0x62]] := by decide +kernel

/-! ### Remark: the empty start row inside a reversed scan

A region boundary `0x00` makes `prevKey` the empty key: after region `[00, …)` the reversed scan
opens `(startRow = [], reversed)`. The real client routes every request by its key, so this goes
to the *first* region `[-, 00)` — the right one — and `Conforming`/`locate` say exactly that.
An environment that sent a reversed request with an empty start row to the *last* region instead
("scan from the end of the table", which is what the empty start row means to HBase itself) would
serve region `[00, …)` again, and the scan would return its rows a second time; it is the
client-side routing that makes the empty key harmless. It is also why a *user* scan must not be
reversed with an empty start row (`ScanHyps.revStart`): it would only see the first region. -/
example :
    ((collect ⟨[0x7a], [], true, false, false, 1⟩
        [ .resp ⟨[0x00], []⟩ ⟨[⟨[⟨[0x61], 0⟩], false⟩], some 1, false, true⟩,
          .resp ⟨[], [0x00]⟩ ⟨[], some 2, false, true⟩ ]).2.1.trace.map (·.startRow)) = [[0x7a], []] := by
  decide +kernel

end GV.Scanner
