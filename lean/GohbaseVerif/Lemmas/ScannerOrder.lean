import GohbaseVerif.Model.Scanner
import GohbaseVerif.Lemmas.Bcmp
/-!
The laws of `bcmp` in the Bool vocabulary of the scanner model (`blt`, `ble`), and the key lemma of
reversed scans: a key free of `rowPadding` lies below `rsk` iff it is at most `prevKey rsk`
(`prevKey rsk` itself may end in the padding, so it is a bound and not the greatest such key).
-/
namespace GV.Scanner
open GV

theorem blt_iff {a b : Bytes} : blt a b = true ↔ bcmp a b = .lt := by
  simp [blt]

theorem ble_iff {a b : Bytes} : ble a b = true ↔ bcmp a b ≠ .gt := by
  simp [ble]

theorem ble_eq_not_blt (a b : Bytes) : ble a b = !blt b a := by
  rw [Bool.eq_iff_iff, Bool.not_eq_true', ← Bool.not_eq_true, ble_iff, blt_iff]
  exact ⟨bcmp_le_not_lt, (bcmp_le_total a b).resolve_right⟩

theorem blt_eq_not_ble (a b : Bytes) : blt a b = !ble b a := by
  rw [ble_eq_not_blt, Bool.not_not]

theorem blt_irrefl (a : Bytes) : blt a a = false := by simp [blt]

theorem ble_refl (a : Bytes) : ble a a = true := by simp [ble]

theorem blt_false_of_self {a : Bytes} (h : blt a a = true) : False := by
  rw [blt_irrefl] at h; cases h

theorem blt_trans {a b c : Bytes} (h1 : blt a b = true) (h2 : blt b c = true) : blt a c = true :=
  blt_iff.mpr (bcmp_trans_lt (blt_iff.mp h1) (blt_iff.mp h2))

theorem ble_of_blt {a b : Bytes} (h : blt a b = true) : ble a b = true :=
  ble_iff.mpr ((bcmp_ne_gt_iff a b).mpr (.inl (blt_iff.mp h)))

theorem blt_of_blt_of_ble {a b c : Bytes} (h1 : blt a b = true) (h2 : ble b c = true) : blt a c = true :=
  blt_iff.mpr (bcmp_lt_of_lt_of_le (blt_iff.mp h1) (ble_iff.mp h2))

theorem blt_of_ble_of_blt {a b c : Bytes} (h1 : ble a b = true) (h2 : blt b c = true) : blt a c = true :=
  blt_iff.mpr (bcmp_lt_of_le_of_lt (ble_iff.mp h1) (blt_iff.mp h2))

theorem ble_trans {a b c : Bytes} (h1 : ble a b = true) (h2 : ble b c = true) : ble a c = true :=
  ble_iff.mpr (bcmp_le_trans (ble_iff.mp h1) (ble_iff.mp h2))

theorem blt_or_ble (a b : Bytes) : blt a b = true ∨ ble b a = true :=
  (bcmp_le_total b a).symm.imp blt_iff.mpr ble_iff.mpr

theorem not_blt_of_ble {a b : Bytes} (h : ble a b = true) : blt b a = false := by
  rwa [ble_eq_not_blt, Bool.not_eq_true'] at h

theorem ble_antisymm {a b : Bytes} (h1 : ble a b = true) (h2 : ble b a = true) : a = b :=
  bcmp_le_antisymm (ble_iff.mp h1) (ble_iff.mp h2)

theorem ble_nil_left (a : Bytes) : ble [] a = true := ble_iff.mpr (bcmp_nil_le a)

theorem blt_nil_right (a : Bytes) : blt a [] = false :=
  Bool.eq_false_iff.mpr (mt blt_iff.mp (bcmp_lt_nil a))

theorem ble_nil_right {a : Bytes} (h : ble a [] = true) : a = [] :=
  ble_antisymm h (ble_nil_left a)

theorem blt_nil_left {a : Bytes} (h : a ≠ []) : blt [] a = true :=
  blt_iff.mpr ((bcmp_nil_left a).resolve_right h)

theorem blt_cons_same (x : UInt8) (a b : Bytes) : blt (x :: a) (x :: b) = blt a b := by
  rw [blt, bcmp_cons_self, blt]

theorem ble_cons_same (x : UInt8) (a b : Bytes) : ble (x :: a) (x :: b) = ble a b := by
  rw [ble, bcmp_cons_self, ble]

theorem blt_cons_lt {x y : UInt8} (h : x < y) (a b : Bytes) : blt (x :: a) (y :: b) = true := by
  rw [blt, bcmp_cons_lt h]; rfl

theorem ble_cons_lt {x y : UInt8} (h : x < y) (a b : Bytes) : ble (x :: a) (y :: b) = true := by
  rw [ble, bcmp_cons_lt h]; rfl

theorem blt_cons_gt {x y : UInt8} (h : y < x) (a b : Bytes) : blt (x :: a) (y :: b) = false := by
  rw [blt, bcmp_cons_gt h]; rfl

theorem ble_cons_gt {x y : UInt8} (h : y < x) (a b : Bytes) : ble (x :: a) (y :: b) = false := by
  rw [ble, bcmp_cons_gt h]; rfl

theorem blt_cons_singleton (y x : UInt8) (ys : Bytes) : blt (y :: ys) [x] = decide (y < x) := by
  rcases Std.lt_trichotomy y x with h | rfl | h
  · simp [blt_cons_lt h, h]
  · simp [blt_cons_same, blt_nil_right]
  · simp [blt_cons_gt h, UInt8.lt_asymm h]

theorem u8_lt_iff_not_pred_lt {x : UInt8} (hx : x ≠ 0) (y : UInt8) : y < x ↔ ¬ x - 1 < y := by
  have hx0 : x.toNat ≠ 0 := fun e => hx (UInt8.toNat_inj.mp e)
  have := x.toNat_lt
  simp only [UInt8.lt_iff_toNat_lt, UInt8.toNat_sub, UInt8.reduceToNat]
  omega

theorem hasPadding_tail {x : UInt8} {k : Bytes} (h : hasPadding (x :: k) = false) : hasPadding k = false := by
  rw [hasPadding, Bool.or_eq_false_iff] at h
  exact h.2

theorem ff_prefix_of_gt (n : Nat) (k : Bytes) (h : ble k (List.replicate n 255) = false) :
    (List.replicate n (255 : UInt8)).isPrefixOf k = true := by
  induction n generalizing k with
  | zero => simp
  | succ n ih =>
    simp only [List.replicate_succ] at h ⊢
    cases k with
    | nil => simp [ble, bcmp] at h
    | cons y ys =>
      by_cases hy : y = 255
      · subst hy
        rw [ble_cons_same] at h
        simp [List.isPrefixOf, ih ys h]
      · have : y < 255 :=
          UInt8.lt_of_le_of_ne (UInt8.le_iff_toNat_le.mpr (Nat.le_of_lt_succ y.toNat_lt)) hy
        rw [ble_cons_lt this] at h; cases h

theorem rowPadding_ff : Gen.Wire.rowPadding = List.replicate Gen.Wire.rowPadding.length 255 := by decide

theorem le_padding_of_no_padding {k : Bytes} (hk : hasPadding k = false) :
    ble k Gen.Wire.rowPadding = true := by
  cases hb : ble k Gen.Wire.rowPadding with
  | true => rfl
  | false =>
    exfalso
    rw [rowPadding_ff] at hb
    have := ff_prefix_of_gt _ k hb
    rw [← rowPadding_ff] at this
    cases k with
    | nil =>
      -- the padding is not empty
      have : Gen.Wire.rowPadding.isPrefixOf ([] : Bytes) = false := by decide
      simp_all
    | cons y ys =>
      simp [hasPadding, this] at hk

theorem blt_iff_ble_prevKey (rsk k : Bytes) (hr : rsk ≠ []) (hk : hasPadding k = false) :
    blt k rsk = ble k (prevKey rsk) := by
  induction rsk generalizing k with
  | nil => exact absurd rfl hr
  | cons x p ih =>
    cases k with
    | nil => rw [blt_nil_left hr, ble_nil_left]
    | cons y ys =>
      cases p with
      | nil =>
        -- `rsk = [x]`: on the left only the first byte of `k` counts
        rw [blt_cons_singleton]
        simp only [prevKey, List.getLast?_singleton, List.dropLast_singleton, List.nil_append,
          List.singleton_append]
        by_cases hx : x = 0
        · -- below `[0]` there is only `[]`, and `prevKey [0] = []`
          subst hx
          simp [ble, bcmp]
        · rw [if_neg hx]
          have hpred := u8_lt_iff_not_pred_lt hx y
          rcases Std.lt_trichotomy y (x - 1) with h1 | rfl | h2
          · rw [ble_cons_lt h1, decide_eq_true (hpred.mpr (UInt8.lt_asymm h1))]
          · -- first byte `x - 1`: the rest of `k` must not exceed the padding; the one use of `hk`
            rw [ble_cons_same, le_padding_of_no_padding (hasPadding_tail hk),
              decide_eq_true (hpred.mpr (UInt8.lt_irrefl _))]
          · rw [ble_cons_gt h2, decide_eq_false (fun h => hpred.mp h h2)]
      | cons x2 p2 =>
        -- a longer `rsk`: `prevKey` changes its end only, so compare first bytes and go on
        have hpk : prevKey (x :: x2 :: p2) = x :: prevKey (x2 :: p2) := by
          simp only [prevKey, List.getLast?_cons_cons, List.dropLast_cons_cons]
          cases hl : (x2 :: p2).getLast? with
          | none => simp at hl
          | some b => simp only []; split <;> rfl
        rw [hpk]
        rcases Std.lt_trichotomy y x with h1 | rfl | h2
        · rw [blt_cons_lt h1, ble_cons_lt h1]
        · rw [blt_cons_same, ble_cons_same]
          exact ih ys (by simp) (hasPadding_tail hk)
        · rw [blt_cons_gt h2, ble_cons_gt h2]

end GV.Scanner
