import GohbaseVerif.Model.Cell
import GohbaseVerif.Lemmas.Outcome
import GohbaseVerif.Lemmas.BigEndian
/-! The KeyValue codec of `Model/Cell.lean`: both decoders invert `encodeCell` on valid cells; on
arbitrary bytes the Go decoder never faults and stays inside the buffer (one `…_safe` statement per
function); the two encodings of a mutation carry the same cells. -/
namespace GV.Cell
open GV

theorem layout_length (row fam qual val : Bytes) (ts : Nat) (typ : UInt8) :
    (layout row fam qual val ts typ).length
      = 24 + row.length + fam.length + qual.length + val.length := by
  simp only [layout, List.length_append, List.length_cons, length_toBE]
  omega

theorem cellblockLen_eq (r f q v : Nat) : cellblockLen r f q v = 24 + r + f + q + v := by
  simp only [cellblockLen, Gen.Cell.cellblockLen]
  omega

theorem appendCellblock_eq_layout (row fam qual val : Bytes) (ts : Nat) (typ : UInt8) :
    appendCellblock row fam qual val ts typ = layout row fam qual val ts typ := by
  simp only [appendCellblock, cellblockLen_eq, layout_length]
  simp [List.take_of_length_le, layout_length]

theorem length_eq_cellblockLen (row fam qual val : Bytes) (ts : Nat) (typ : UInt8) :
    (appendCellblock row fam qual val ts typ).length
      = cellblockLen row.length fam.length qual.length val.length := by
  rw [appendCellblock_eq_layout, layout_length, cellblockLen_eq]

/-- The cells C10 quantifies over: row shorter than 64 KiB, family shorter than 256 bytes,
a 64-bit timestamp. (The total size bound is a separate hypothesis.) -/
def Cell.Valid (c : Cell) : Prop :=
  c.row.length < 2 ^ 16 ∧ c.family.length < 2 ^ 8 ∧ c.ts < 2 ^ 64

theorem encodeCell_length (c : Cell) :
    (encodeCell c).length
      = 24 + c.row.length + c.family.length + c.qualifier.length + c.value.length := by
  simp only [encodeCell, appendCellblock_eq_layout, layout_length]

/-- Subtraction in `uintN` (`m = 2^N`) is exact when nothing is borrowed. -/
theorem sub_mod_of_le {m a b : Nat} (ha : a < m) (h : b ≤ a) : (a % m + m - b % m) % m = a - b := by
  rw [Nat.mod_eq_of_lt ha, Nat.mod_eq_of_lt (Nat.lt_of_le_of_lt h ha),
    show a + m - b = a - b + m by omega, Nat.add_mod_right, Nat.mod_eq_of_lt (by omega)]

theorem subU32_of_le {a b : Nat} (ha : a < two32) (h : b ≤ a) : subU32 a b = a - b :=
  sub_mod_of_le ha h

theorem subU32_add {a b : Nat} (h : a + b < two32) : subU32 (a + b) b = a := by
  rw [subU32_of_le h (Nat.le_add_left ..), Nat.add_sub_cancel]

/-- The qualifier length as the decoder computes it, six `uint32` subtractions from the key length
`rk`, is what is left of the key after row, family and the 12 bytes of fixed fields. -/
theorem qualLen_eq {rk k f q : Nat} (hrk : rk < two32) (h : rk = 12 + k + f + q) :
    subU32 (subU32 (subU32 (subU32 (subU32 (subU32 rk k) f) 2) 1) 8) 1 = q := by
  obtain rfl : rk = q + 1 + 8 + 1 + 2 + f + k := by omega
  simp (disch := omega) only [subU32_add]

/-! ### both decoders on an encoded cell

`two32`, `two16` are definitions `omega` does not open: the `have t : two32 = …` in front of the proofs
below is for it. -/

theorem cellBody_parts (kvLen : Nat) (row fam qual tsb val rest : Bytes) (fl typ : UInt8)
    (hfl : fl.toNat = fam.length) (h8 : tsb.length = 8)
    (hrk : 2 + row.length + 1 + fam.length + qual.length + 8 + 1 < two32) :
    cellBody kvLen (2 + row.length + 1 + fam.length + qual.length + 8 + 1) val.length row.length
        (row ++ (fl :: (fam ++ (qual ++ (tsb ++ (typ :: (val ++ rest)))))))
      = .ok (⟨row, fam, qual, beNat tsb, typ, val⟩, (kvLen + 4) % two32) := by
  unfold cellBody
  have q := qualLen_eq hrk (by omega : _ = 12 + row.length + fam.length + qual.length)
  have m : (2 + row.length + 1 + fam.length + 8 + 1) % two32
      ≤ 2 + row.length + 1 + fam.length + qual.length + 8 + 1 :=
    Nat.le_trans (Nat.mod_le _ _) (by omega)
  -- each slice is a front part of what is left: its bounds check reads `a + _ < a`
  simp only [List.take_left', List.drop_left', List.length_append, List.length_cons, hfl, q, h8,
    gt_iff_lt, Nat.not_lt_of_le, m, Nat.le_add_right, if_false]

/-- `rk`, `vl`, `k` are Go's `rowKeyLen` (the length of the key), `valueLen` and `keyLen` (the length of the
row). `rk` counts the 2-byte row-length word, which `b[14:]` has already taken off `body`: the `+ 2`, here
and in `cellBody_safe`. -/
theorem cellFromCellBlock_words {rk vl k : Nat} {body : Bytes} (h32 : 4 + 4 + rk + vl < two32)
    (hk : k < two16) (hrow : 12 + k ≤ rk) (hbody : rk + vl ≤ body.length + 2) :
    cellFromCellBlock (toBE 4 (4 + 4 + rk + vl) ++ (toBE 4 rk ++ (toBE 4 vl ++ (toBE 2 k ++ body))))
      = cellBody (4 + 4 + rk + vl) rk vl k body := by
  have t : two32 = 256 ^ 4 ∧ two16 = 256 ^ 2 := ⟨rfl, rfl⟩
  generalize hkv : 4 + 4 + rk + vl = kv at h32 ⊢
  -- the decoder reads at the offsets 4, 8, 12, 14: as successive drops, each takes one word off
  have d8 : ∀ b : Bytes, b.drop 8 = (b.drop 4).drop 4 := fun _ => by rw [List.drop_drop]
  have d12 : ∀ b : Bytes, b.drop 12 = ((b.drop 4).drop 4).drop 4 := fun _ => by
    rw [List.drop_drop, List.drop_drop]
  have d14 : ∀ b : Bytes, b.drop 14 = (((b.drop 4).drop 4).drop 4).drop 2 := fun _ => by
    rw [List.drop_drop, List.drop_drop, List.drop_drop]
  unfold cellFromCellBlock
  simp only [d8, d12, d14, drop_toBE_append, take_toBE_append, List.length_append, length_toBE]
  rw [beNat_toBE_of_lt (n := 4) h32, beNat_toBE_of_lt (v := rk) (by omega),
    beNat_toBE_of_lt (v := vl) (by omega), beNat_toBE_of_lt (n := 2) hk]
  rw [if_neg (by omega), if_neg (by omega), if_neg (by omega), if_neg (by omega),
    if_neg (not_not_intro hkv), if_neg (by rw [Nat.mod_eq_of_lt (by omega)]; omega)]

theorem decode_encodeCell (c : Cell) (rest : Bytes) (hv : c.Valid)
    (htot : (encodeCell c).length < 2 ^ 32) :
    cellFromCellBlock (encodeCell c ++ rest) = .ok (c, (encodeCell c).length) := by
  obtain ⟨row, fam, qual, ts, typ, val⟩ := c
  obtain ⟨hr, hf, hts⟩ := hv
  rw [encodeCell_length] at htot ⊢
  dsimp only at hr hf hts htot ⊢
  have t : two32 = 2 ^ 32 := rfl
  simp only [encodeCell, appendCellblock_eq_layout, layout, List.append_assoc, List.cons_append]
  rw [cellFromCellBlock_words (by omega) hr (by omega)
      (by simp only [List.length_append, List.length_cons, length_toBE]; omega),
    cellBody_parts _ row fam qual (toBE 8 ts) val rest _ typ (UInt8.toNat_ofNat_of_lt' hf)
      (length_toBE _ _) (by omega),
    beNat_toBE_of_lt hts, Nat.mod_eq_of_lt (by omega)]
  congr 2
  omega

namespace Spec
theorem readUInt_append (a t : Bytes) (n : Nat) (h : a.length = n) :
    readUInt n (a ++ t) = some (beNat a, t) := by
  simp [readUInt, List.take_left' h, List.drop_left' h, h]

theorem readBytes_append (a t : Bytes) (n : Nat) (h : a.length = n) :
    readBytes n (a ++ t) = some (a, t) := by
  simp [readBytes, List.take_left' h, List.drop_left' h, h]

/-- The four length words are variables with their length and value, not `toBE` words: over `toBE` words
`simp` through the do-block sends the kernel into deep recursion. The nesting of `++` follows the nested
`readBytes` of `kvDecode` (the KeyValue inside the buffer, the key inside the KeyValue). -/
theorem kvDecode_parts (wTotal wKey wVal wRow row fam qual tsb val rest : Bytes) (fl typ : UInt8)
    (l0 : wTotal.length = 4) (l1 : wKey.length = 4) (l2 : wVal.length = 4) (l3 : wRow.length = 2)
    (h8 : tsb.length = 8)
    (v0 : beNat wTotal = 4 + 4 + (2 + row.length + 1 + fam.length + qual.length + 8 + 1) + val.length)
    (v1 : beNat wKey = 2 + row.length + 1 + fam.length + qual.length + 8 + 1)
    (v2 : beNat wVal = val.length) (v3 : beNat wRow = row.length) (hfl : fl.toNat = fam.length) :
    kvDecode (wTotal ++ ((wKey ++ (wVal ++ ((wRow ++ (row ++ ([fl] ++ (fam ++ (qual ++ (tsb ++ [typ]))))))
        ++ val))) ++ rest))
      = some (⟨row, fam, qual, beNat tsb, typ, val⟩, 4 + beNat wTotal) := by
  unfold kvDecode
  simp only [readUInt_append _ _ 4 l0, Option.bind_eq_bind, Option.bind_some]
  rw [readBytes_append _ rest _ (by simp [l1, l2, l3, h8, v0]; omega)]
  simp only [readUInt_append _ _ 4 l1, readUInt_append _ _ 4 l2, Option.bind_some]
  rw [if_neg (by simp [l3, h8, v1, v2]; omega)]
  rw [readBytes_append _ val _ (by simp [l3, h8, v1]; omega)]
  simp only [readUInt_append _ _ 2 l3, Option.bind_some]
  rw [readBytes_append _ _ _ v3.symm]
  simp only [Option.bind_some]
  rw [readUInt_append [fl] _ 1 rfl]
  simp only [Option.bind_some]
  have hb : beNat [fl] = fam.length := by simp [beNat, hfl]
  rw [readBytes_append _ _ _ hb.symm]
  simp only [Option.bind_some]
  rw [if_neg (by simp [h8])]
  rw [readBytes_append qual _ _ (by simp [h8])]
  simp only [Option.bind_some, readUInt_append _ _ 8 h8]
  have : readUInt 1 [typ] = some (typ.toNat, []) := by simp [readUInt, beNat]
  rw [this]
  simp

end Spec

theorem kvDecode_encodeCell (c : Cell) (rest : Bytes) (hv : c.Valid)
    (htot : (encodeCell c).length < 2 ^ 32) :
    Spec.kvDecode (encodeCell c ++ rest) = some (c, (encodeCell c).length) := by
  obtain ⟨row, fam, qual, ts, typ, val⟩ := c
  obtain ⟨hr, hf, hts⟩ := hv
  rw [encodeCell_length] at htot ⊢
  dsimp only at hr hf hts htot ⊢
  have h := Spec.kvDecode_parts (toBE 4 _) (toBE 4 _) (toBE 4 _) (toBE 2 _) row fam qual (toBE 8 ts) val
    rest (UInt8.ofNat fam.length) typ (length_toBE _ _) (length_toBE _ _) (length_toBE _ _)
    (length_toBE _ _) (length_toBE _ _) (beNat_toBE_of_lt (by omega)) (beNat_toBE_of_lt (by omega))
    (beNat_toBE_of_lt (by omega)) (beNat_toBE_of_lt (by omega)) (UInt8.toNat_ofNat_of_lt' hf)
  rw [beNat_toBE_of_lt hts, beNat_toBE_of_lt (by omega)] at h
  simp only [encodeCell, appendCellblock_eq_layout, layout, List.append_assoc, List.cons_append,
    List.nil_append] at h ⊢
  rw [h]
  congr 2
  omega

/-! ### the Go decoder on arbitrary bytes

A decoder that slices its buffer front to back keeps `m + n ≤ b.length`: the buffer holds the `m`
bytes of the next read and the `n` of all later ones. -/

theorem not_length_lt {α} {l : List α} {m n : Nat} (h : m + n ≤ l.length) : ¬ l.length < m :=
  Nat.not_lt.mpr (Nat.le_trans (Nat.le_add_right m n) h)

theorem le_length_drop {α} {l : List α} {m n : Nat} (h : m + n ≤ l.length) : n ≤ (l.drop m).length :=
  List.length_drop ▸ Nat.le_sub_of_add_le' h

theorem exists_cons_of_le {α} {l : List α} {n : Nat} (h : 1 + n ≤ l.length) :
    ∃ x t, l = x :: t ∧ n ≤ t.length := by
  cases l with
  | nil => exact absurd h (by simp)
  | cons x t =>
    rw [List.length_cons, Nat.add_comm] at h
    exact ⟨x, t, rfl, Nat.le_of_succ_le_succ h⟩

/-- The hypotheses are what the checks of `cellFromCellBlock` have established when it calls
`cellBody`; each `not_length_lt` below is one bounds check of the Go slice expressions. -/
theorem cellBody_safe (kvLen rowKeyLen valueLen keyLen : Nat) (b1 : Bytes)
    (hk : keyLen < two16) (hrk : rowKeyLen < two32)
    (h1 : 12 + keyLen ≤ rowKeyLen) (h2 : rowKeyLen + valueLen ≤ b1.length + 2) :
    (cellBody kvLen rowKeyLen valueLen keyLen b1).Safe (fun p => p.2 = (kvLen + 4) % two32) := by
  -- 268: the family-length byte (< 256) and the 12 bytes of fixed fields, in the `uint32` sum below
  have t : two16 + 268 ≤ two32 := by decide
  -- `r` bytes of family and qualifier; `h`: the row, a length byte, those, timestamp, type, value
  obtain ⟨r, rfl⟩ := Nat.exists_eq_add_of_le h1
  have h : keyLen + (1 + (r + (8 + (1 + valueLen)))) ≤ b1.length := by omega
  unfold cellBody
  rw [if_neg (not_length_lt h)]
  obtain ⟨fl, b3, hb2, h⟩ := exists_cons_of_le (le_length_drop h)
  rw [hb2]
  dsimp only
  have hfl := fl.toNat_lt
  rw [Nat.mod_eq_of_lt (by omega)]
  refine Outcome.Safe.ite_err fun hfam => ?_
  obtain ⟨q, rfl⟩ := Nat.exists_eq_add_of_le (show fl.toNat ≤ r by omega)
  rw [Nat.add_assoc] at h
  rw [qualLen_eq hrk (Nat.add_assoc ..).symm, if_neg (not_length_lt h)]
  have h := le_length_drop h
  rw [if_neg (not_length_lt h)]
  have h := le_length_drop h
  rw [if_neg (not_length_lt h)]
  obtain ⟨ct, b7, hb6, h⟩ := exists_cons_of_le (le_length_drop h)
  rw [hb6]
  dsimp only
  rw [if_neg (Nat.not_lt.mpr h)]
  rfl

theorem cellFromCellBlock_safe (b : Bytes) :
    (cellFromCellBlock b).Safe (fun p => p.2 ≤ b.length) := by
  unfold cellFromCellBlock
  refine Outcome.Safe.ite_err fun _ => Outcome.Safe.ite_err fun hlen => Outcome.Safe.ite_err fun hmin => ?_
  -- `b[12:14]`: `hlen`, `hmin` say `kvLen + 4 ≤ len(b)` and `10 ≤ kvLen`, so the 14 bytes are there
  rw [if_neg (by omega)]
  refine Outcome.Safe.ite_err fun hsum => Outcome.Safe.ite_err fun hrow => ?_
  have k := beNat_take_lt (b.drop 12) 2
  have rk := beNat_take_lt (b.drop 4) 4
  have t : two16 = 256 ^ 2 ∧ two32 = 256 ^ 4 := by decide
  rw [Nat.mod_eq_of_lt (by omega)] at hrow
  refine (cellBody_safe _ _ _ _ _ (by omega) (by omega) (by omega)
    (by simp only [List.length_drop]; omega)).mono fun p hp => ?_
  have := Nat.mod_le (beNat (b.take 4) + 4) two32
  omega

theorem offset_add_le {b : Bytes} {off l : Nat} (h : off ≤ b.length) (hl : l ≤ (b.drop off).length) :
    (off + l) % two32 ≤ b.length :=
  Nat.le_trans (Nat.mod_le _ _) (by rw [List.length_drop] at hl; omega)

theorem deserializeFrom_safe (b : Bytes) (n readLen : Nat) (h : readLen ≤ b.length) :
    (deserializeFrom b n readLen).Safe (fun p => p.2 ≤ b.length) := by
  induction n generalizing readLen with
  | zero => exact h
  | succ n ih =>
    unfold deserializeFrom
    rw [if_neg (Nat.not_lt.mpr h)]
    refine (cellFromCellBlock_safe (b.drop readLen)).elim (fun (c, l) hl => ?_) (fun e => trivial)
    dsimp only
    exact (ih _ (offset_add_le h hl)).elim (fun (cs, r) hr => hr) (fun e => trivial)

theorem deserializeCellBlocks_safe (b : Bytes) (n : Nat) :
    (deserializeCellBlocks b n).Safe (fun p => p.2 ≤ b.length) :=
  Outcome.Safe.ite_err fun _ => deserializeFrom_safe b n 0 (Nat.zero_le _)

/-! ### streams of encoded cells -/

/-- `n` encoded cells occupy at least `minCellLen * n` bytes: the count guard of
`deserializeCellBlocks` never refuses what the encoder wrote. -/
theorem mul_length_le_flatMap_encodeCell (cells : List Cell) :
    minCellLen * cells.length ≤ (cells.flatMap encodeCell).length := by
  induction cells with
  | nil => simp
  | cons c cs ih =>
    simp only [List.flatMap_cons, List.length_append, List.length_cons, encodeCell_length]
    simp only [minCellLen] at ih ⊢
    omega

theorem length_le_flatMap_encodeCell (xs : List Cell) :
    xs.length ≤ (xs.flatMap encodeCell).length :=
  Nat.le_trans (Nat.le_mul_of_pos_left _ (by decide)) (mul_length_le_flatMap_encodeCell xs)

theorem deserializeFrom_encoded (cells : List Cell) (pre rest : Bytes)
    (hv : ∀ c ∈ cells, c.Valid)
    (htot : pre.length + (cells.flatMap encodeCell).length < 2 ^ 32) :
    deserializeFrom (pre ++ (cells.flatMap encodeCell ++ rest)) cells.length pre.length
      = .ok (cells, pre.length + (cells.flatMap encodeCell).length) := by
  induction cells generalizing pre with
  | nil => simp [deserializeFrom]
  | cons c cs ih =>
    obtain ⟨hc, hv'⟩ := List.forall_mem_cons.mp hv
    simp only [List.flatMap_cons, List.length_append, List.length_cons] at htot ⊢
    unfold deserializeFrom
    rw [if_neg (by simp)]
    rw [List.drop_left' rfl, List.append_assoc, decode_encodeCell c _ hc (by omega)]
    dsimp only
    have e : (pre.length + (encodeCell c).length) % two32 = (pre ++ encodeCell c).length := by
      rw [Nat.mod_eq_of_lt (by simp only [two32]; omega), List.length_append]
    have a : pre ++ (encodeCell c ++ (cs.flatMap encodeCell ++ rest))
        = (pre ++ encodeCell c) ++ (cs.flatMap encodeCell ++ rest) := by
      simp only [List.append_assoc]
    rw [e, a, ih (pre ++ encodeCell c) hv' (by simp only [List.length_append]; omega)]
    simp only [List.length_append]
    congr 2
    omega

theorem kvDecodeN_encoded (cells : List Cell) (rest : Bytes)
    (hv : ∀ c ∈ cells, c.Valid)
    (htot : (cells.flatMap encodeCell).length < 2 ^ 32) :
    Spec.kvDecodeN cells.length (cells.flatMap encodeCell ++ rest)
      = some (cells, (cells.flatMap encodeCell).length) := by
  induction cells with
  | nil => simp [Spec.kvDecodeN]
  | cons c cs ih =>
    obtain ⟨hc, hv'⟩ := List.forall_mem_cons.mp hv
    simp only [List.flatMap_cons, List.length_append, List.length_cons] at htot ⊢
    unfold Spec.kvDecodeN
    rw [List.append_assoc, kvDecode_encodeCell c _ hc (by omega)]
    simp only [Option.bind_eq_bind, Option.bind_some]
    rw [List.drop_left' rfl, ih hv' (by omega)]
    simp

theorem cellsOfCellblocks_encoded (cells : List Cell) (hv : ∀ c ∈ cells, c.Valid)
    (htot : (cells.flatMap encodeCell).length < 2 ^ 32) :
    Spec.cellsOfCellblocks (cells.flatMap encodeCell) cells.length = some cells := by
  unfold Spec.cellsOfCellblocks
  rw [if_neg (by omega)]
  have := kvDecodeN_encoded cells [] hv htot
  rw [List.append_nil] at this
  simp only [Int.toNat_natCast, this]
  simp

/-! ### `SameMap` -/

theorem SameMap.cons (a : Bytes × Inner) {m m' : VMap} (h : SameMap m m') : SameMap (a :: m) (a :: m') := by
  obtain ⟨f, v⟩ := a
  cases v with
  | none => exact .consNone f h
  | some l => exact .consSome f (List.Perm.refl l) h

theorem SameMap.refl (m : VMap) : SameMap m m := by
  induction m with
  | nil => exact .nil
  | cons a m ih => exact .cons a ih

theorem SameMap.symm {m m' : VMap} (h : SameMap m m') : SameMap m' m := by
  induction h with
  | nil => exact .nil
  | consNone f _ ih => exact .consNone f ih
  | consSome f hp _ ih => exact .consSome f hp.symm ih
  | swap a b m => exact .swap b a m
  | trans _ _ ih1 ih2 => exact .trans ih2 ih1

theorem SameMap.families {m m' : VMap} (h : SameMap m m') :
    (m.map Prod.fst).Perm (m'.map Prod.fst) := by
  induction h with
  | nil => exact .nil
  | consNone f _ ih => exact .cons f ih
  | consSome f _ _ ih => exact .cons f ih
  | swap a b m => exact .swap _ _ _
  | trans _ _ ih1 ih2 => exact ih1.trans ih2

theorem SameMap.length_eq {m m' : VMap} (h : SameMap m m') : m.length = m'.length := by
  have := h.families.length_eq
  simpa using this

theorem SameMap.family_bound {m m' : VMap} (h : SameMap m m') (n : Nat)
    (hb : ∀ e ∈ m, e.1.length < n) : ∀ e ∈ m', e.1.length < n := by
  intro e he
  have : e.1 ∈ m'.map Prod.fst := List.mem_map_of_mem he
  have := (h.families.mem_iff).mpr this
  obtain ⟨e', he', heq⟩ := List.mem_map.mp this
  rw [← heq]
  exact hb e' he'

/-! ### `valuesToCellblocks`: the first pass counts what the second writes, in any two orders -/

/-- The three ways both encoders read one entry `(fam, v)` of a mutation's map. -/
inductive EntryCase (mu : Mut) : Inner → Prop
  /-- not a delete: one `Put` cell per qualifier -/
  | other {v : Inner} (hk : mu.kind ≠ .delete) : EntryCase mu v
  /-- a delete that lists no qualifier: the whole family, as one cell with the empty qualifier -/
  | family {v : Inner} (hk : mu.kind = .delete) (hv : v = none ∨ v = some []) : EntryCase mu v
  /-- a delete of the listed qualifiers -/
  | columns (a : Bytes × Bytes) (t : List (Bytes × Bytes)) (hk : mu.kind = .delete) :
      EntryCase mu (some (a :: t))

theorem entryCase (mu : Mut) (v : Inner) : EntryCase mu v := by
  by_cases hk : mu.kind = .delete
  · match v with
    | none => exact .family hk (.inl rfl)
    | some [] => exact .family hk (.inr rfl)
    | some (a :: t) => exact .columns a t hk
  · exact .other hk

theorem writtenInner_snd (mu : Mut) (v : Inner) : (writtenInner mu v).2 = countedInner mu v := by
  unfold writtenInner countedInner
  cases entryCase mu v with
  | other hk => cases v <;> simp [hk]
  | family hk hv => rcases hv with rfl | rfl <;> simp [hk]
  | columns a t hk => simp [hk]

theorem writtenInner_fst_perm (mu : Mut) {l l' : List (Bytes × Bytes)} (h : l.Perm l') :
    (writtenInner mu (some l)).1 = (writtenInner mu (some l')).1 := by
  unfold writtenInner
  simp only [h.length_eq]
  split
  · split <;> rfl
  · rfl

/-- The cells the second pass writes for one entry of the map. -/
def familyCells (mu : Mut) (e : Bytes × Inner) : List Cell :=
  (writtenInner mu e.2).2.map fun (k1, v1) =>
    ⟨mu.key, e.1, k1, cellTs mu, (writtenInner mu e.2).1, v1⟩

theorem writtenCells_eq_flatMap (mu : Mut) (m : VMap) : writtenCells mu m = m.flatMap (familyCells mu) := by
  unfold writtenCells
  congr

theorem writtenCells_perm (mu : Mut) {m m' : VMap} (h : SameMap m m') :
    (writtenCells mu m).Perm (writtenCells mu m') := by
  simp only [writtenCells_eq_flatMap]
  induction h with
  | nil => exact .nil
  | consNone f _ ih =>
    simp only [List.flatMap_cons]
    exact List.Perm.append_left _ ih
  | consSome f hp _ ih =>
    simp only [List.flatMap_cons]
    refine List.Perm.append ?_ ih
    simp only [familyCells, writtenInner_snd, countedInner, writtenInner_fst_perm mu hp, hp.length_eq]
    split
    · exact List.Perm.refl _
    · exact hp.map _
  | swap a b m =>
    simp only [List.flatMap_cons, ← List.append_assoc]
    exact List.Perm.append_right _ List.perm_append_comm
  | trans _ _ ih1 ih2 => exact ih1.trans ih2

theorem flatMap_encodeCell_length_perm {xs ys : List Cell} (h : xs.Perm ys) :
    (xs.flatMap encodeCell).length = (ys.flatMap encodeCell).length := by
  simp only [List.length_flatMap]
  exact (h.map _).sum_nat

theorem familyCells_length (mu : Mut) (e : Bytes × Inner) :
    (familyCells mu e).length = (countedInner mu e.2).length := by
  simp [familyCells, writtenInner_snd]

theorem familyCells_bytes (mu : Mut) (e : Bytes × Inner) :
    ((familyCells mu e).flatMap encodeCell).length
      = ((countedInner mu e.2).map fun (k1, v1) =>
          cellblockLen mu.key.length e.1.length k1.length v1.length).sum := by
  simp only [familyCells, writtenInner_snd, List.length_flatMap, List.map_map]
  congr 1
  apply List.map_congr_left
  intro a _
  simp [encodeCell_length, cellblockLen_eq]

/-- The `count` of `valuesToCellblocks`, with both passes over `m` in the same order: the number of cells
written. `cbsLen_same_order` is the same for `cbsLen` and their bytes. -/
theorem count_same_order (mu : Mut) (m : VMap) :
    ((m.map fun (fam, v) => (fam, countedInner mu v)).map fun (_, l) => l.length).sum
      = (writtenCells mu m).length := by
  rw [writtenCells_eq_flatMap, List.length_flatMap, List.map_map]
  exact congrArg List.sum (List.map_congr_left fun e _ => (familyCells_length mu e).symm)

theorem cbsLen_same_order (mu : Mut) (m : VMap) :
    ((m.map fun (fam, v) => (fam, countedInner mu v)).map fun (fam, l) =>
        (l.map fun (k1, v1) => cellblockLen mu.key.length fam.length k1.length v1.length).sum).sum
      = ((writtenCells mu m).flatMap encodeCell).length := by
  rw [writtenCells_eq_flatMap, List.flatMap_assoc, List.length_flatMap, List.map_map]
  exact congrArg List.sum (List.map_congr_left fun e _ => (familyCells_bytes mu e).symm)

theorem valuesToCellblocks_ok (mu : Mut) (m1 m2 : VMap) (h : SameMap m1 m2) :
    valuesToCellblocks mu m1 m2
      = .ok ((writtenCells mu m2).flatMap encodeCell, toInt32 (writtenCells mu m2).length,
             ((writtenCells mu m2).flatMap encodeCell).length % two32) := by
  unfold valuesToCellblocks
  by_cases h0 : m1.length = 0
  · have h2 : m2.length = 0 := by rw [← h.length_eq]; exact h0
    have e2 : m2 = [] := List.eq_nil_of_length_eq_zero h2
    subst e2
    simp [h0, writtenCells, toInt32, two32]
  · rw [if_neg h0]
    dsimp only
    rw [cbsLen_same_order, count_same_order]
    have hp := writtenCells_perm mu h
    rw [flatMap_encodeCell_length_perm hp, hp.length_eq]
    simp

theorem toInt32_of_lt {n : Nat} (h : n < 2 ^ 31) : toInt32 n = (n : Int) := by
  unfold toInt32
  have : n % two32 = n := Nat.mod_eq_of_lt (by simp only [two32]; omega)
  simp only [this]
  rw [if_pos (by omega)]

theorem mem_writtenCells {mu : Mut} {m : VMap} {c : Cell} (h : c ∈ writtenCells mu m) :
    c.row = mu.key ∧ c.ts = cellTs mu ∧ ∃ e ∈ m, c.family = e.1 := by
  rw [writtenCells_eq_flatMap] at h
  obtain ⟨e, he, hc⟩ := List.mem_flatMap.mp h
  simp only [familyCells, List.mem_map] at hc
  obtain ⟨kv, _, rfl⟩ := hc
  exact ⟨rfl, rfl, e, he, rfl⟩

theorem cellTs_lt (mu : Mut) (h : mu.timestamp < 2 ^ 64) : cellTs mu < 2 ^ 64 := by
  unfold cellTs
  split
  · decide
  · exact h

theorem writtenCells_valid (mu : Mut) (m : VMap) (hkey : mu.key.length < 2 ^ 16)
    (hts : mu.timestamp < 2 ^ 64) (hfam : ∀ e ∈ m, e.1.length < 2 ^ 8) :
    ∀ c ∈ writtenCells mu m, c.Valid := by
  intro c hc
  obtain ⟨hr, ht, e, he, hf⟩ := mem_writtenCells hc
  exact ⟨hr ▸ hkey, hf ▸ hfam e he, ht ▸ cellTs_lt mu hts⟩

/-- Breaks when a constant in `hrpc/mutate.go` changes. -/
theorem gen_type_codes :
    UInt8.ofNat Gen.Cell.putType = 4 ∧ UInt8.ofNat Gen.Cell.deleteType = 8 ∧
    UInt8.ofNat Gen.Cell.deleteFamilyVersionType = 10 ∧
    UInt8.ofNat Gen.Cell.deleteColumnType = 12 ∧ UInt8.ofNat Gen.Cell.deleteFamilyType = 14 := by
  decide

theorem maxInt64_eq : maxInt64 = Spec.latestTimestamp := by decide

theorem writtenCells_intended (mu : Mut) (m : VMap) :
    writtenCells mu m = Spec.intendedCells mu m := by
  obtain ⟨c4, c8, c10, c12, c14⟩ := gen_type_codes
  have hts : cellTs mu = if mu.timestamp = two64 - 1 then Spec.latestTimestamp else mu.timestamp := by
    simp [cellTs, maxTimestamp, maxInt64_eq]
  rw [writtenCells_eq_flatMap]
  unfold Spec.intendedCells
  refine congrArg (List.flatMap · _) (funext fun e => ?_)
  obtain ⟨fam, v⟩ := e
  simp only [familyCells, writtenInner, hts]
  cases entryCase mu v with
  | other hk => simp [hk, c4]
  | family hk hv => rcases hv with rfl | rfl <;> simp [hk, c10, c14, emptyQualifier, apply_ite UInt8.ofNat]
  | columns a t hk => simp [hk, c8, c12, apply_ite UInt8.ofNat]

theorem cellOfQV_of_ne_delete {kind : MutKind} (h : kind ≠ .delete) (row fam : Bytes) (q : QV) :
    Spec.cellOfQV kind row fam q = ⟨row, fam, q.qualifier, q.ts.getD Spec.latestTimestamp, 4, q.value⟩ := by
  cases kind with
  | delete => exact absurd rfl h
  | _ => rfl

theorem cellsOfProto_intended (mu : Mut) (m : VMap) :
    Spec.cellsOfProto mu.kind mu.key (valuesToProto mu m (protoTs mu)) = Spec.intendedCells mu m := by
  unfold Spec.cellsOfProto valuesToProto Spec.intendedCells
  rw [List.flatMap_map]
  refine congrArg (List.flatMap · _) (funext fun e => ?_)
  obtain ⟨fam, v⟩ := e
  have hts : (protoTs mu).getD Spec.latestTimestamp
      = if mu.timestamp = two64 - 1 then Spec.latestTimestamp else mu.timestamp := by
    unfold protoTs maxTimestamp
    by_cases h : mu.timestamp = two64 - 1 <;> simp [h]
  simp only [protoFamily, List.map_map]
  cases entryCase mu v with
  | other hk => cases v <;> simp [hk, cellOfQV_of_ne_delete hk, hts, Function.comp_def]
  | family hk hv =>
    rcases hv with rfl | rfl <;> cases mu.deleteOneVersion <;>
      simp [hk, emptyQualifier, Spec.cellOfQV, Spec.codeOfDelete, hts]
  | columns a t hk =>
    cases mu.deleteOneVersion <;> simp [hk, Spec.cellOfQV, Spec.codeOfDelete, hts, Function.comp_def]

end GV.Cell
