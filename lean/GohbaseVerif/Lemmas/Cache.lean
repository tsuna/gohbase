import GohbaseVerif.Lemmas.WFName
import GohbaseVerif.Lemmas.Outcome
/-! The B-tree contract on a sorted well-formed cache: where `Seek` lands for a key `t,k,s`, and
what the enumerator calls of `getOverlaps` return. -/
namespace GV.Cache
open GV GV.RegionName

theorem seekIdx_cons {key : Bytes} {x : Region} {d : Int} (h : compareName key x.name = .ok d)
    (xs : List Region) :
    seekIdx key (x :: xs) = match signOf d with
      | .gt => (seekIdx key xs).map fun p => (p.1 + 1, p.2)
      | .eq => .ok (0, true)
      | .lt => .ok (0, false) := by
  rw [seekIdx, h]
  cases e : signOf d
  · have h1 := (signOf_lt_iff d).mp e
    have h2 : ¬ 0 < d := by omega
    have h3 : d ≠ 0 := by omega
    simp [h2, h3]
  · have h1 := (signOf_eq_iff d).mp e
    simp [h1]
  · have h1 := (signOf_gt_iff d).mp e
    simp only [h1, if_true]
    cases seekIdx key xs <;> rfl

/-- `Seek` for a key that compares as the triple `key` stops at index `i` of `l`, on an equal
name (`hit`) or not. -/
structure SeekAt (l : List Region) (key : Bytes × Bytes × Bytes) (i : Nat) (hit : Bool) : Prop where
  le : i ≤ l.length
  below : ∀ x ∈ l.take i, lex3 x.key3 key = .lt
  found : hit = true → ∃ v, l[i]? = some v ∧ v.key3 = key
  above : hit = false → ∀ y ∈ l.drop i, lex3 key y.key3 = .lt

theorem seek_wf {l : List Region} (hwf : ∀ x ∈ l, x.WF) (hs : Sorted l) {t k s : Bytes}
    (ht : comma ∉ t) (hs' : comma ∉ s) :
    ∃ i hit, seekIdx (mkName t k s) l = .ok (i, hit) ∧ SeekAt l (t, k, s) i hit := by
  induction l with
  | nil => exact ⟨0, false, rfl,
      { le := Nat.le_refl _, below := nofun, found := nofun, above := fun _ => nofun }⟩
  | cons x xs ih =>
    have hx := hwf x List.mem_cons_self
    have hwf' : ∀ y ∈ xs, y.WF := fun y hy => hwf y (List.mem_cons_of_mem _ hy)
    obtain ⟨hxy, hsx⟩ := List.pairwise_cons.mp hs
    obtain ⟨d, hd, hsign⟩ := Outcome.map_eq_ok (compare_wf_right hx ht hs' (k := k))
    have hstep := seekIdx_cons hd xs
    rw [hsign] at hstep
    cases e : lex3 (t, k, s) x.key3 <;> rw [e] at hstep
    · -- the key sorts before `x`, hence before everything
      refine ⟨0, false, hstep,
        { le := Nat.zero_le _, below := nofun, found := nofun, above := fun _ y hy => ?_ }⟩
      rcases List.mem_cons.mp hy with rfl | hy
      · exact e
      · exact lex3_trans_lt e ((nameLt_iff hx (hwf' y hy)).mp (hxy y hy))
    · exact ⟨0, true, hstep,
        { le := Nat.zero_le _, below := nofun, above := nofun
          found := fun _ => ⟨x, rfl, ((lex3_eq_iff _ _).mp e).symm⟩ }⟩
    · obtain ⟨i, hit, hseek, hi⟩ := ih hwf' hsx
      refine ⟨i + 1, hit, by rw [hstep, hseek]; rfl,
        { le := Nat.succ_le_succ hi.le, below := fun y hy => ?_, found := hi.found, above := hi.above }⟩
      rcases List.mem_cons.mp hy with rfl | hy
      · exact (lex3_gt_iff_lt _ _).mp e
      · exact hi.below y hy

theorem searchKeyO_ok {t : Bytes} (h : t.length + 3 ≤ 32767) (k : Bytes) :
    searchKeyO t k = .ok (searchKeyImpl t k) := by
  unfold searchKeyO
  have : ¬ (Gen.Wire.searchKeyMax < t.length + Gen.Wire.searchKeySlack) := by
    simp [Gen.Wire.searchKeyMax, Gen.Wire.searchKeySlack]; omega
  simp [this]

theorem seek_searchKey {l : List Region} (hwf : ∀ x ∈ l, x.WF) (hs : Sorted l) {t : Bytes}
    (ht : comma ∉ t) (k : Bytes) :
    ∃ p, seekIdx (searchKeyImpl t k) l = .ok (p, false) ∧ p ≤ l.length ∧
      (∀ x ∈ l.take p, Below t k x) ∧ (∀ y ∈ l.drop p, ¬ Below t k y) := by
  obtain ⟨p, hit, hseek, hp⟩ := seek_wf hwf hs ht (k := cutKey t k) (s := [0x3a]) (by simp [comma])
  rw [searchKeyImpl_cut]
  cases hit with
  | true =>
    -- no cached name equals a search key: its id would be `:`
    obtain ⟨v, hv, e⟩ := hp.found rfl
    have := (hwf v (List.mem_of_getElem? hv)).sfx_lt_colon
    rw [show v.sfx = [0x3a] from congrArg (·.2.2) e] at this
    simp at this
  | false =>
    refine ⟨p, hseek, hp.le,
      fun x hx => (below_iff (hwf x (List.mem_of_mem_take hx)) t k).mp (hp.below x hx), fun y hy hB => ?_⟩
    have := (below_iff (hwf y (List.mem_of_mem_drop hy)) t k).mpr hB
    rw [← lex3_gt_iff_lt, hp.above rfl y hy] at this
    cases this

/-- `Tree.Put`'s descent. -/
theorem seek_name {l : List Region} (hwf : ∀ x ∈ l, x.WF) (hs : Sorted l) {r : Region} (hr : r.WF) :
    ∃ i hit, seekIdx r.name l = .ok (i, hit) ∧ (∀ x ∈ l.take i, nameLt x r) ∧
      (hit = true → ∃ v, l[i]? = some v ∧ v.name = r.name) ∧
      (hit = false → ∀ y ∈ l.drop i, nameLt r y) := by
  obtain ⟨i, hit, hseek, hi⟩ := seek_wf hwf hs hr.fqNoComma hr.sfxNoComma (k := r.start)
  rw [← hr.name_eq] at hseek
  refine ⟨i, hit, hseek,
    fun x hx => (nameLt_iff (hwf x (List.mem_of_mem_take hx)) hr).mpr (hi.below x hx), fun h => ?_,
    fun h y hy => (nameLt_iff hr (hwf y (List.mem_of_mem_drop hy))).mpr (hi.above h y hy)⟩
  obtain ⟨v, hv, e⟩ := hi.found h
  exact ⟨v, hv, ((hwf v (List.mem_of_getElem? hv)).name_eq_iff hr).mpr e⟩

theorem Cursor.next_of_eof (l : List Region) {c : Cursor} (h : c.eof = true) : c.next l = (none, c) := by
  rw [Cursor.next, if_pos h]

theorem Cursor.next_of_lt {l : List Region} {c : Cursor} (he : c.eof = false) (h : c.pos < l.length) :
    c.next l = (some l[c.pos], ⟨c.pos + 1, true, decide (l.length ≤ c.pos + 1)⟩) := by
  rw [Cursor.next, if_neg (by simp [he]), List.getElem?_eq_getElem h]

theorem Cursor.next_of_ge {l : List Region} {c : Cursor} (he : c.eof = false) (h : l.length ≤ c.pos) :
    c.next l = (none, { c with eof := true }) := by
  rw [Cursor.next, if_neg (by simp [he]), List.getElem?_eq_none h]

theorem Cursor.prev_miss_succ {l : List Region} {p : Nat} (h : p < l.length) :
    (⟨p + 1, false, false⟩ : Cursor).prev l = (some l[p], ⟨p - 1, true, decide (p = 0)⟩) := by
  simp [Cursor.prev, Cursor.prevAt, List.getElem?_eq_getElem h]

/-- The sticky EOF is only ever set at or past the end; the fuel covers the entries left plus the
`Next` that finds the end. -/
theorem ovLoop_eq (l : List Region) (r : Region) :
    ∀ (f : Nat) (c : Cursor) (acc : List Region), (c.eof = true → l.length ≤ c.pos) →
      l.length + 1 ≤ f + c.pos →
      ovLoop l r f c acc = acc ++ (l.drop c.pos).takeWhile (overlap · r) := by
  intro f
  induction f with
  | zero =>
    intro c acc _ hf
    rw [ovLoop, List.drop_eq_nil_of_le (by omega)]; simp
  | succ f ih =>
    intro c acc he hf
    rw [ovLoop]
    by_cases hlt : c.pos < l.length
    · have heof : c.eof = false := Bool.eq_false_iff.mpr fun h => Nat.not_le_of_lt hlt (he h)
      rw [Cursor.next_of_lt heof hlt, List.drop_eq_getElem_cons hlt]
      dsimp only
      by_cases hov : overlap l[c.pos] r = true
      · rw [List.takeWhile_cons_of_pos (p := (overlap · r)) hov, if_pos hov, ih _ _ (by simp) (by simp; omega),
          List.append_assoc]
        rfl
      · rw [List.takeWhile_cons_of_neg (p := (overlap · r)) hov, if_neg hov, List.append_nil]
    · obtain ⟨c', hn⟩ : ∃ c', c.next l = (none, c') := by
        cases h : c.eof with
        | true => exact ⟨_, Cursor.next_of_eof l h⟩
        | false => exact ⟨_, Cursor.next_of_ge h (by omega)⟩
      rw [hn, List.drop_eq_nil_of_le (by omega)]
      simp

/-- After a `Seek` that missed at `p`: `Prev`, `Next` and, when either ran into the sticky EOF,
`SeekFirst` leave the enumerator on the entry before `p` (on the first entry when there is none). -/
theorem rewind_eq {l : List Region} {p : Nat} (hne : l ≠ []) (hp : p ≤ l.length) :
    ∃ n e, ((⟨p, false, false⟩ : Cursor).prev l).2.next l = (n, e) ∧
      (if n.isNone then seekFirst l else some e) = some ⟨p - 1, true, false⟩ := by
  have hlen : 0 < l.length := List.length_pos_iff.mpr hne
  have hfirst : seekFirst l = some ⟨0, true, false⟩ := by simp [seekFirst, hne]
  rcases p with _ | _ | p
  · -- `Prev` runs off the left end
    exact ⟨none, _, Cursor.next_of_eof l (c := ⟨0, false, true⟩) rfl, hfirst⟩
  · -- `Prev` returns the first entry and hits the left end
    rw [Cursor.prev_miss_succ hlen]
    exact ⟨none, _, Cursor.next_of_eof l (c := ⟨0, true, true⟩) rfl, hfirst⟩
  · -- `Prev` returns entry `p + 1`, `Next` entry `p`
    rw [Cursor.prev_miss_succ (show p + 1 < l.length from hp)]
    refine ⟨_, _, Cursor.next_of_lt (c := ⟨p, true, false⟩) rfl (show p < l.length by omega), ?_⟩
    simp; omega

/-- `v`: the entry before the `Seek` position `p`, the first entry when `p = 0`. -/
theorem getOverlaps_eq {l : List Region} {r : Region} {key : Bytes} {p : Nat} (hne : l ≠ [])
    (hk : searchKeyO r.fq r.start = .ok key) (hs : seekIdx key l = .ok (p, false))
    (hp : p ≤ l.length) :
    ∃ v, l[p - 1]? = some v ∧
      getOverlaps l r = .ok ((if overlap v r then [v] else []) ++
        (l.drop (p - 1 + 1)).takeWhile (overlap · r)) := by
  have hlt : p - 1 < l.length := by have := List.length_pos_iff.mpr hne; omega
  obtain ⟨n, e, h1, h2⟩ := rewind_eq hne hp
  have h3 := Cursor.next_of_lt (l := l) (c := ⟨p - 1, true, false⟩) rfl hlt
  refine ⟨l[p - 1], List.getElem?_eq_getElem hlt, ?_⟩
  simp only [getOverlaps, List.isEmpty_iff, hne, hk, seek, hs, h1, h2, h3, Bool.false_eq_true, if_false]
  rw [ovLoop_eq l r _ _ _ (by simp) (by simp)]

end GV.Cache
