import GohbaseVerif.Lemmas.ConnAfter
import GohbaseVerif.Gen.Exits
/-!
# C18 — the read timeout tears the connection down only while something is outstanding

Model: `Model/Conn.lean`. `armed` = a read deadline is set on the connection; `timeout` (the
deadline expiring inside `conn.Read`) is enabled only while `armed`; `inFlight` is the `uint32`
counter of `inFlightAdd` / `inFlightDown`, which are serialised by `inFlightM` with FIFO hand-off.

The counter is a `uint32` and call ids are a `uint32` as well: the theorems assume that fewer than
2^32 ids have been allocated on this connection (`s.nextId < uint32`).

The proofs rest on the invariant `GD` of `Lemmas/ConnFlight.lean`, which holds in *every* reachable state
(not only quiescent ones); the quiescent statements below are its specialisation.
-/
namespace GV.Conn

/-- In a live quiescent state the in-flight counter is exactly the number of registered
(outstanding) requests. -/
theorem counter_tracks_outstanding {q : Nat} {s : St} (h : Reachable q s) (hd : s.done = false)
    (hq : quiescent s = true) (hid : s.nextId < uint32) : s.inFlight = s.sent.length := by
  have g := (good_of_reachable h).gd
  obtain ⟨hs, _, hr⟩ := of_quiescent hq
  have := g.eq ⟨hd, hid⟩
  rw [hs, cntQ_sends_nil] at this
  rcases hr with e | e <;> rw [e] at this <;> simpa [Reader.dw] using this

example : ∃ s, run (init 2) [.queueDirect 1, .write (.direct 1) true .ok, .arm (.direct 1) .ok,
      .queueBatched 2, .write .writer true .ok, .arm .writer .ok, .read 1 .result] = some s ∧
    s.done = false ∧ quiescent s = true ∧ s.nextId < uint32 ∧ s.inFlight = 1 ∧ s.sent.length = 1 := by
  refine ⟨_, rfl, ?_⟩
  decide

/-- a request that cannot be marshalled consumes an id but is never counted in flight -/
example : ∃ s, run (init 2) [.queueDirect 1, .write (.direct 1) true .ok, .arm (.direct 1) .ok,
      .queueUnsendable 3] = some s ∧
    s.done = false ∧ quiescent s = true ∧ s.nextId = 2 ∧ s.inFlight = 1 ∧ s.sent.length = 1 ∧
    s.unsendable = [3] ∧ s.armed = true := by
  refine ⟨_, rfl, ?_⟩
  decide

/-- In a live quiescent state the read deadline is set iff something is outstanding — for every
interleaving of senders (batching goroutine, direct senders), reader and cancellations. -/
theorem deadline_tracks_outstanding {q : Nat} {s : St} (h : Reachable q s) (hd : s.done = false)
    (hq : quiescent s = true) (hid : s.nextId < uint32) :
    (s.armed = true ↔ 0 < s.sent.length) := by
  have g := (good_of_reachable h).gd
  have hc := counter_tracks_outstanding h hd hq hid
  obtain ⟨hs, _, hr⟩ := of_quiescent hq
  have hnc : s.reader.isClearing = false := by rcases hr with e | e <;> rw [e] <;> rfl
  constructor
  · intro ha
    rcases g.i1 ⟨hd, hid⟩ ha with h1 | h1
    · omega
    · rw [hnc] at h1; cases h1
  · intro hp
    rcases g.i2 ⟨hd, hid⟩ (by omega) with h2 | h2
    · exact h2.1
    · exact absurd hs h2

/-- a response overtakes the arming of its own request (read before `arm`), a second request is
written meanwhile: the deadline ends up set, for the second request -/
example : ∃ s, run (init 2) [.queueDirect 1, .write (.direct 1) true .ok, .queueDirect 2,
      .read 1 .result, .arm (.direct 1) .ok, .write (.direct 2) true .ok, .arm (.direct 2) .ok] = some s ∧
    s.done = false ∧ quiescent s = true ∧ s.armed = true ∧ s.sent.length = 1 := by
  refine ⟨_, rfl, ?_⟩
  decide

/-- the last response clears the deadline -/
example : ∃ s, run (init 2) [.queueDirect 1, .write (.direct 1) true .ok, .arm (.direct 1) .ok,
      .read 1 .result, .clear .ok] = some s ∧
    s.done = false ∧ quiescent s = true ∧ s.armed = false ∧ s.sent = [] := by
  refine ⟨_, rfl, ?_⟩
  decide

/-- A connection with nothing outstanding is never torn down by the read timeout, however long it
stays idle: the timeout event is not enabled. -/
theorem idle_never_times_out {q : Nat} {s : St} (h : Reachable q s) (hd : s.done = false)
    (hq : quiescent s = true) (hid : s.nextId < uint32) (he : s.sent = []) :
    step s .timeout = none := by
  have := (deadline_tracks_outstanding h hd hq hid).1
  rw [he] at this
  have ha : s.armed = false := by
    cases hb : s.armed
    · rfl
    · exact absurd (this hb) (by simp)
  simp [step, ha]

/-- an idle connection after traffic, including a sender that had to queue for `inFlightM`
(`queueDirect 2` arrives while sender 1 is inside the arming call) and a response that is read
before its request has been counted in flight (`read 2` right after): no timeout possible -/
example : ∃ s, run (init 2) [.queueDirect 1, .write (.direct 1) true .ok, .queueDirect 2, .read 2 .result,
      .arm (.direct 1) .ok, .write (.direct 2) true .ok, .arm (.direct 2) .ok, .read 1 .result,
      .clear .ok] = some s ∧
    s.done = false ∧ quiescent s = true ∧ s.nextId < uint32 ∧ s.sent = [] ∧ s.handed = [1, 2] ∧
    s.inFlight = 0 ∧ step s .timeout = none := by
  refine ⟨_, rfl, ?_⟩
  decide

/-- only unsendable requests so far (one direct, one batched): the deadline was never set -/
example : ∃ s, run (init 2) [.queueUnsendable 3, .queueBatchedUnsendable 4] = some s ∧
    s.done = false ∧ quiescent s = true ∧ s.nextId = 2 ∧ s.sent = [] ∧ s.inFlight = 0 ∧
    step s .timeout = none := by
  refine ⟨_, rfl, ?_⟩
  decide

/-- When the timeout does fire (something is outstanding and no response came in time), the
connection is failed and nothing stays registered. -/
theorem timeout_fails_everything {q : Nat} {s s' : St} (h : Reachable q s)
    (hs : step s .timeout = some s') : s'.done = true ∧ s'.sent = [] := by
  obtain ⟨hrd, _, rfl⟩ := step_timeout_some hs
  -- the reader is parked in `Read`, so the connection has not failed yet
  have hlive : s.done = false := (good_of_reachable h).dr.live hrd
  exact ⟨(failed_readerFail s).done, sent_failConn (s := { s with reader := .exited }) hlive⟩

/-- … and every outstanding call has received its connection-level error -/
example : ∃ s, run (init 2) [.queueDirect 1, .write (.direct 1) true .ok, .arm (.direct 1) .ok,
      .queueBatched 2, .timeout] = some s ∧
    s.done = true ∧ s.sent = [] ∧ deliveredCount s 1 = 1 ∧ deliveredCount s 2 = 1 := by
  refine ⟨_, rfl, ?_⟩
  decide

/-- The invariant behind the quiescent statements, valid in every reachable state of a live
connection: mutual exclusion on `inFlightM`, exact accounting of the counter against the queue of
pending increments, and the two implications tying the deadline to the counter. -/
theorem deadline_invariant {q : Nat} {s : St} (h : Reachable q s) (hd : s.done = false)
    (hid : s.nextId < uint32) :
    (s.reader.isClearing = true → ∀ x ∈ s.sends, x.phase ≠ .arm) ∧
    s.inFlight + cntQ s.sends s.mWait = s.sent.length + s.reader.dw ∧
    (s.armed = true → 0 < s.inFlight ∨ s.reader.isClearing = true) ∧
    (0 < s.inFlight → (s.armed = true ∧ s.reader.isClearing = false) ∨ s.sends ≠ []) ∧
    (mHeld s = false → s.mWait = []) := by
  have g := good_of_reachable h
  exact ⟨g.gd.excl, g.gd.eq ⟨hd, hid⟩, g.gd.i1 ⟨hd, hid⟩, g.gd.i2 ⟨hd, hid⟩, g.rest⟩

/-- Regenerated from rpc.go, region/new.go and region/client.go: the duration that decides when a
silent server is detected is the configured `RegionReadTimeout` on every connection the client
creates. `establishRegion` passes `c.regionReadTimeout` in the read-timeout position of *both*
`newRegionClientFn` calls (regionserver / hbase:meta connections and the admin client's master
connection); `region.NewClient` stores its sixth parameter in the `readTimeout` field; and the
only non-zero argument of `SetReadDeadline` is `time.Now().Add(c.readTimeout)` (the other one is
the zero time, which clears the deadline: `Act.clear`). So the `timeout` action of the model fires
`readTimeout` after the last request was written, where `readTimeout` is what the user configured. -/
theorem read_timeout_is_the_configured_one_in_source :
    GV.Gen.Exits.regionClientReadTimeoutArgs = ["c.regionReadTimeout", "c.regionReadTimeout"] ∧
    GV.Gen.Exits.newClientReadTimeoutParam = ("readTimeout", "readTimeout") ∧
    GV.Gen.Exits.readDeadlineArgs = ["time.Now().Add(c.readTimeout)", "time.Time{}"] := by decide +kernel

end GV.Conn
