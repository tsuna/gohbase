import GohbaseVerif.Lemmas.ConnOwn
/-!
# C02 — a response is delivered to the call whose request carried its call id

Model: `Model/Conn.lean`. `wroteAs` logs, for every registration (`registerRPC` in `send`), the
pair (call, wire id); `Dlv.src` records the wire id of the response frame a result was derived
from. (The byte-level part of C02 — the id written into the request header is the registered one,
the id read from the response header is the one looked up — is outside this model.)
-/
namespace GV.Conn

/-- A result derived from the response frame with wire id `id` reaches only a call whose request
was registered (and written) under that id. -/
theorem delivery_correlates {q : Nat} {s : St} (h : Reachable q s) :
    ∀ d ∈ s.delivered, ∀ id, d.src = some id → (d.call, id) ∈ s.wroteAs :=
  (gr_of_reachable h).go.dlvWrote

example : ∃ s, run (init 2) [.queueDirect 7, .queueBatched 8, .queueBatched 9, .queueBatched 10,
      .write (.direct 7) true .ok, .arm (.direct 7) .ok, .write .writer true .ok, .arm .writer .ok,
      .write .writer true .ok, .arm .writer .ok,
      .read 3 (.perCall [(9, .ok), (10, .nsre)]), .read 1 .result] = some s ∧
    s.delivered = [⟨9, .ok, some 3⟩, ⟨10, .nsre, some 3⟩, ⟨7, .ok, some 1⟩] ∧
    s.wroteAs = [(7, 1), (8, 2), (9, 3), (10, 3)] ∧ s.sent = [(2, .multi [8])] := by
  refine ⟨_, rfl, ?_⟩
  decide

/-- Each call is registered under at most one wire id, and at most once. -/
theorem wire_id_per_call {q : Nat} {s : St} (h : Reachable q s) :
    (∀ c, (s.wroteAs.map (·.1)).count c ≤ 1) ∧
    (∀ c i j, (c, i) ∈ s.wroteAs → (c, j) ∈ s.wroteAs → i = j) := by
  have g := (gr_of_reachable h).go
  have h1 : ∀ c, (s.wroteAs.map (·.1)).count c ≤ 1 := fun c => by
    have := g.wroteOnce c
    have := List.nodup_iff_count.1 g.handedNodup c
    simp only [written] at *; omega
  refine ⟨h1, fun c i j hi hj => ?_⟩
  exact (Prod.mk.inj (eq_of_nodup_map (·.1) (List.nodup_iff_count.2 h1) hi hj rfl)).2

/-- Two registered items never share a wire id; a registered item is exactly the set of calls
written under its id; the item in the reader's hand was written under the id of its frame; every
id ever used is at most the counter. -/
theorem wire_ids_unique {q : Nat} {s : St} (h : Reachable q s) :
    (s.sent.map (·.1)).Nodup ∧
    (∀ p ∈ s.sent, ∀ c, (c, p.1) ∈ s.wroteAs ↔ c ∈ p.2.calls) ∧
    (∀ id it f, s.reader.held = some (id, it, f) → ∀ c ∈ it.calls, (c, id) ∈ s.wroteAs) ∧
    (∀ p ∈ s.sent, p.1 ≤ s.nextId) ∧ (∀ e ∈ s.wroteAs, e.2 ≤ s.nextId) := by
  have g := gr_of_reachable h
  exact ⟨g.go.idsNodup, g.go.sentWrote, fun id it f hh => (g.held id it f hh).2, g.go.idsLe,
    g.go.wroteLe⟩

/-- Ids are allocated strictly increasing: an item registered by a step gets an id above every id
used before (so it can never collide with an earlier item, registered or already answered). -/
theorem fresh_wire_id {q : Nat} {s s' : St} {a : Act} (h : Reachable q s)
    (hs : step s a = some s') :
    ∀ p ∈ s'.sent, p ∈ s.sent ∨ ((∀ e ∈ s.wroteAs, e.2 < p.1) ∧ ∀ p' ∈ s.sent, p'.1 < p.1) := by
  intro p hp
  have g := (gr_of_reachable h).go
  rcases (ext_step (step_cases hs)).sentNew p hp with h1 | h1
  · exact Or.inl h1
  · exact Or.inr ⟨fun e he => Nat.lt_of_le_of_lt (g.wroteLe e he) h1,
      fun p' hp' => Nat.lt_of_le_of_lt (g.idsLe p' hp') h1⟩

/-- (an unsendable call consumes id 3 without registering anything) -/
example : ∃ s, run (init 2) [.queueDirect 7, .queueBatched 8, .queueBatched 9, .queueUnsendable 6,
      .queueDirect 5] = some s ∧
    s.sent = [(1, .single 7), (2, .multi [8]), (4, .single 5)] ∧
    s.wroteAs = [(7, 1), (8, 2), (5, 4)] ∧ s.nextId = 4 ∧ s.delivered = [⟨6, .fatal, none⟩] := by
  refine ⟨_, rfl, ?_⟩
  decide

end GV.Conn
