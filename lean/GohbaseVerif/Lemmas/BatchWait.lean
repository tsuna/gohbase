import GohbaseVerif.Lemmas.Batch
/-!
The wait phase of one retry round in flat form (`Flat`): the calls in wait order are a handled prefix and
a swept suffix (empty unless a select took `<-ctx.Done()`), and every variable of `SendBatch` after the
phase is a function of the two lists. Flat forms compose (`Flat.trans`): call after call, group after group.
-/
namespace GV.Batch

def isRetry : Ans → Bool
  | .fail .retryable _ => true
  | .fail .nsre _ => true
  | .fail .server _ => true
  | _ => false

def isBackoff : Ans → Bool
  | .fail .retryable _ => true
  | _ => false

def isUnretry : Ans → Bool
  | .fail .fatal _ => true
  | .ownDone => true
  | _ => false

theorem ans_trichotomy {a : Ans} (h : a ≠ .silent) :
    (a.isOk = true ∧ isRetry a = false ∧ isUnretry a = false) ∨
    (a.isOk = false ∧ isRetry a = true ∧ isUnretry a = false) ∨
    (a.isOk = false ∧ isRetry a = false ∧ isUnretry a = true) := by
  cases a with
  | fail cls t => cases cls <;> simp [Ans.isOk, isRetry, isUnretry]
  | silent => exact absurd rfl h
  | _ => simp [Ans.isOk, isRetry, isUnretry]

theorem isBackoff_isRetry {a : Ans} (h : isBackoff a = true) : isRetry a = true := by
  cases a with
  | fail cls t =>
    cases cls with
    | retryable => rfl
    | _ => cases h
  | _ => cases h

theorem isRetry_not_ok {a : Ans} (h : isRetry a = true) : a.isOk = false := by
  cases a with
  | ok m => cases h
  | _ => rfl

theorem ok_not_others {a : Ans} (h : a.isOk = true) :
    isRetry a = false ∧ isBackoff a = false ∧ isUnretry a = false := by
  cases a with
  | ok m => exact ⟨rfl, rfl, rfl⟩
  | _ => cases h

theorem handled_err_none {c : Nat} {a : Ans} (h : a ≠ .silent) (s : Slot) :
    (handled c a s).err = none ↔ a.isOk = true := by
  cases a with
  | silent => exact absurd rfl h
  | _ => simp [handled, Ans.isOk]

theorem swept_err_none (a : Ans) (s : Slot) : (swept a s).err = none ↔ a.isOk = true := by
  cases a <;> simp [swept, Ans.isOk]

theorem cancelPos_none_of_not_done {c : Cancel} (h : ctxDoneAfterWait c = false) : cancelPos c = none := by
  cases c with
  | wait p => cases h
  | _ => rfl

/-- From the variables `a` to the variables `a'`, the calls `l` were waited for: `pre` handled, one
select after the other, then — if a select saw the batch context done — `post` swept. -/
structure Flat (b0 : List Nat) (ans : Nat → Ans) (a a' : Acc) (l pre post : List Nat) : Prop where
  split : l = pre ++ post
  enter : a.interrupted = true → pre = []
  leave : a'.interrupted = false → post = []
  mono : a.interrupted = true → a'.interrupted = true
  res : a'.res = writeAll b0 (fun c => swept (ans c)) post (writeAll b0 (fun c => handled c (ans c)) pre a.res)
  retries : a'.retries = a.retries ++ pre.filter fun c => isRetry (ans c)
  needBackoff : a'.needBackoff = (a.needBackoff || pre.any fun c => isBackoff (ans c))
  unretry : a'.unretry = (a.unretry || pre.any fun c => isUnretry (ans c))
  allOK : a'.allOK = (a.allOK && pre.all (fun c => (ans c).isOk) && post.all fun c => (ans c).isOk)
  answered : ∀ c ∈ pre, ans c ≠ .silent

namespace Flat
variable {b0 : List Nat} {ans : Nat → Ans}

theorem refl (a : Acc) : Flat b0 ans a a [] [] [] where
  split := rfl
  enter _ := rfl
  leave _ := rfl
  mono := id
  res := rfl
  retries := by simp
  needBackoff := by simp
  unretry := by simp
  allOK := by simp
  answered _ h := nomatch h

/-- Once a select has seen the batch context done nothing is handled any more: between two flat forms
either the first has swept nothing or the second handles nothing (`key`). Only the order of the calls and
of the writes needs it; the flags are sums over `pre` and `post`. -/
theorem trans {a a₁ a₂ : Acc} {l₁ p₁ q₁ l₂ p₂ q₂ : List Nat} (h₁ : Flat b0 ans a a₁ l₁ p₁ q₁)
    (h₂ : Flat b0 ans a₁ a₂ l₂ p₂ q₂) : Flat b0 ans a a₂ (l₁ ++ l₂) (p₁ ++ p₂) (q₁ ++ q₂) := by
  have key : q₁ = [] ∨ p₂ = [] := by
    cases hi : a₁.interrupted
    · exact Or.inl (h₁.leave hi)
    · exact Or.inr (h₂.enter hi)
  have hsplit : l₁ ++ l₂ = p₁ ++ p₂ ++ (q₁ ++ q₂) := by
    rw [h₁.split, h₂.split]
    rcases key with rfl | rfl
    · simp only [List.append_nil, List.nil_append, List.append_assoc]
    · simp only [List.append_nil, List.nil_append, List.append_assoc]
  have hres : a₂.res = writeAll b0 (fun c => Batch.swept (ans c)) (q₁ ++ q₂)
      (writeAll b0 (fun c => Batch.handled c (ans c)) (p₁ ++ p₂) a.res) := by
    rw [h₂.res, h₁.res]
    rcases key with rfl | rfl
    · simp only [writeAll_append, writeAll_nil, List.nil_append]
    · simp only [writeAll_append, writeAll_nil, List.append_nil]
  exact {
    split := hsplit
    enter := fun hi => by rw [h₁.enter hi, h₂.enter (h₁.mono hi)]; rfl
    leave := fun hi => by
      have hi₁ : a₁.interrupted = false := by
        cases h : a₁.interrupted
        · rfl
        · rw [h₂.mono h] at hi; cases hi
      rw [h₁.leave hi₁, h₂.leave hi]; rfl
    mono := fun hi => h₂.mono (h₁.mono hi)
    res := hres
    retries := by rw [h₂.retries, h₁.retries, List.filter_append, List.append_assoc]
    needBackoff := by rw [h₂.needBackoff, h₁.needBackoff, List.any_append, Bool.or_assoc]
    unretry := by rw [h₂.unretry, h₁.unretry, List.any_append, Bool.or_assoc]
    allOK := by rw [h₂.allOK, h₁.allOK, List.all_append, List.all_append]; ac_rfl
    answered := fun c hc => (List.mem_append.mp hc).elim (h₁.answered c) (h₂.answered c) }

/-- one select that did not take `<-ctx.Done()` -/
theorem handled (a : Acc) {c : Nat} (hs : ans c ≠ .silent) (hno : a.interrupted = false) :
    Flat b0 ans a
      { a with res := upd b0 (Batch.handled c (ans c)) a.res c,
               retries := a.retries ++ if isRetry (ans c) then [c] else [],
               needBackoff := a.needBackoff || isBackoff (ans c), unretry := a.unretry || isUnretry (ans c),
               allOK := a.allOK && (ans c).isOk } [c] [c] [] where
  split := rfl
  enter h := by rw [hno] at h; cases h
  leave _ := rfl
  mono h := by rw [hno] at h; cases h
  res := rfl
  retries := by simp [List.filter_cons]
  needBackoff := by simp
  unretry := by simp
  allOK := by simp
  answered d hd := by rw [List.mem_singleton.mp hd]; exact hs

theorem swept (a : Acc) (cs : List Nat) :
    Flat b0 ans a { a with res := sweep b0 ans cs a.res, allOK := a.allOK && cs.all fun d => (ans d).isOk,
                           interrupted := true } cs [] cs where
  split := rfl
  enter _ := rfl
  leave h := nomatch h
  mono _ := rfl
  res := sweep_eq_writeAll ..
  retries := by simp
  needBackoff := by simp
  unretry := by simp
  allOK := by simp
  answered _ h := nomatch h

end Flat

section
attribute [local simp] isRetry isBackoff isUnretry Ans.isOk

theorem handle_ok {b0 : List Nat} {a : Ans} {c : Nat} {w w' : W} (h : handle b0 a c w = .ok w') :
    a ≠ .silent ∧
    w' = ⟨upd b0 (handled c a) w.res c,
          w.retry ++ (if isRetry a then [c] else []), w.backoff || isBackoff a,
          w.unretry || isUnretry a, w.ok && a.isOk⟩ := by
  -- every branch of `handle` computes to the formula; `rfl` unfolds `handled c a` under `upd`
  cases a with
  | ok m => cases h; simp [setRes_eq_upd]; rfl
  | fail cls t =>
    cases cls with
    | retryable => cases h; simp [setRes_eq_upd]; rfl
    | nsre => cases h; simp [setRes_eq_upd]; rfl
    | server => cases h; simp [setRes_eq_upd]; rfl
    | fatal => cases h; simp [setRes_eq_upd]; rfl
  | ownDone => cases h; simp [setErr_eq_upd]; rfl
  | silent => cases h

end

/-- the locals of `waitForCompletion` as variables of `SendBatch` -/
def W.toAcc (w : W) (cut : Bool) : Acc := ⟨w.res, w.ok, w.retry, w.backoff, w.unretry, cut⟩

theorem waitGroup_flat {b0 : List Nat} {ans : Nat → Ans} {cancel : Option Nat} {cs : List Nat} {pos : Nat}
    {w w' : W} {cut : Bool} (h : waitGroup b0 ans cancel cs pos w = .ok (w', cut)) :
    (cancel = none → cut = false) ∧
    ∃ pre post, Flat b0 ans (w.toAcc false) (w'.toAcc cut) cs pre post := by
  induction cs generalizing pos w with
  | nil => cases h; exact ⟨fun _ => rfl, [], [], .refl _⟩
  | cons c cs ih =>
    rw [waitGroup] at h
    split at h
    · next hc =>
      cases h
      exact ⟨fun h0 => (by rw [h0] at hc; cases hc), [], c :: cs, Flat.swept (w.toAcc false) _⟩
    · split at h
      · next w₁ hw₁ =>
        obtain ⟨hs, rfl⟩ := handle_ok hw₁
        obtain ⟨hcut, pre, post, f⟩ := ih h
        exact ⟨hcut, c :: pre, post, (Flat.handled (w.toAcc false) hs rfl).trans f⟩
      · cases h
      · cases h

/-- the locals of a group merged into the variables of `SendBatch`, whatever `ok` says -/
theorem Flat.merged {b0 : List Nat} {ans : Nat → Ans} {a : Acc} {w : W} {cut : Bool} {l pre post : List Nat}
    (f : Flat b0 ans ⟨a.res, true, [], false, false, false⟩ (w.toAcc cut) l pre post)
    (hint : a.interrupted = false) :
    Flat b0 ans a
      ⟨w.res, a.allOK && w.ok, a.retries ++ w.retry, a.needBackoff || w.backoff, a.unretry || w.unretry, cut⟩
      l pre post where
  split := f.split
  enter h := by rw [hint] at h; cases h
  leave := f.leave
  mono h := by rw [hint] at h; cases h
  res := f.res
  retries := by rw [show w.retry = _ from f.retries, List.nil_append]
  needBackoff := by rw [show w.backoff = _ from f.needBackoff, Bool.false_or]
  unretry := by rw [show w.unretry = _ from f.unretry, Bool.false_or]
  allOK := by rw [show w.ok = _ from f.allOK, Bool.true_and, Bool.and_assoc]
  answered := f.answered

/-- `waitForCompletion` reports `!ok` exactly when there is something to merge: what `SendBatch` does
with the locals of a group is the merge in either case. -/
theorem Flat.mergeIf_eq {b0 : List Nat} {ans : Nat → Ans} {a : Acc} {w : W} {cut : Bool} {l pre post : List Nat}
    (f : Flat b0 ans ⟨a.res, true, [], false, false, false⟩ (w.toAcc cut) l pre post) :
    (if !w.ok then
        { res := w.res, allOK := false, retries := a.retries ++ w.retry,
          needBackoff := a.needBackoff || w.backoff, unretry := a.unretry || w.unretry, interrupted := cut }
      else { a with res := w.res, interrupted := cut } : Acc) =
    ⟨w.res, a.allOK && w.ok, a.retries ++ w.retry, a.needBackoff || w.backoff, a.unretry || w.unretry, cut⟩ := by
  cases hk : w.ok
  · simp
  · -- every handled call succeeded: nothing is retried, asks for a back-off or is final
    have hok : w.ok = _ := f.allOK
    rw [hk, eq_comm, Bool.and_eq_true, Bool.and_eq_true, List.all_eq_true] at hok
    have hall : ∀ c ∈ pre, (ans c).isOk = true := hok.1.2
    have hr : w.retry = [] := by
      rw [show w.retry = _ from f.retries, List.nil_append]
      exact List.filter_eq_nil_iff.mpr fun c hc => by simp [(ok_not_others (hall c hc)).1]
    have hb : w.backoff = false := by
      rw [show w.backoff = _ from f.needBackoff, Bool.false_or]
      exact List.any_eq_false.mpr fun c hc => by simp [(ok_not_others (hall c hc)).2.1]
    have hu : w.unretry = false := by
      rw [show w.unretry = _ from f.unretry, Bool.false_or]
      exact List.any_eq_false.mpr fun c hc => by simp [(ok_not_others (hall c hc)).2.2]
    simp [hr, hb, hu]

theorem waitAll_flat {b0 : List Nat} {ans : Nat → Ans} {cancel : Option Nat} {gs : List (Nat × List Nat)}
    {pos : Nat} {a a' : Acc} (h : waitAll b0 ans cancel gs pos a = .ok a') :
    (cancel = none → a.interrupted = false → a'.interrupted = false) ∧
    ∃ pre post, Flat b0 ans a a' (gs.flatMap (·.2)) pre post := by
  induction gs generalizing pos a with
  | nil => cases h; exact ⟨fun _ h => h, [], [], .refl _⟩
  | cons g gs ih =>
    rw [waitAll] at h
    split at h
    · -- entered with a done context: the whole group is swept
      next hint =>
      obtain ⟨_, pre, post, f⟩ := ih h
      have f₁ := Flat.swept (b0 := b0) (ans := ans) a g.2
      -- `Flat.swept` sets `interrupted`, `waitAll` leaves it as it is: `true` either way
      rw [← hint] at f₁
      exact ⟨fun _ h => (by rw [hint] at h; cases h), _, _, f₁.trans f⟩
    · next hint =>
      have hint : a.interrupted = false := by simpa using hint
      split at h
      · next w cut hw =>
        obtain ⟨hcut, pg, qg, fg⟩ := waitGroup_flat hw
        rw [fg.mergeIf_eq] at h
        obtain ⟨hno, pre, post, f⟩ := ih h
        exact ⟨fun hc _ => hno hc (hcut hc), _, _, (fg.merged hint).trans f⟩
      · cases h
      · cases h

end GV.Batch
