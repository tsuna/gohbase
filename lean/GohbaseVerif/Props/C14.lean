import GohbaseVerif.Lemmas.ScannerStream
import GohbaseVerif.Gen.Selects
/-!
# C14 — scanners terminate cleanly and release server-side scanners

Model: `Model/Scanner.lean` (tied to `/repo/scanner.go` by the correspondence run `c06`).
All theorems quantify over *every* script of replies (conforming or not, RPC errors anywhere,
script exhausted) and every user behaviour (`Next`, `Close`, cancellation in any order):
`Reachable sc s` is "some sequence of operations against some replies leads to `s`".

Residual (cannot be proved of any client): a region scanner the server opened for a request
whose response never reached the client has an id the client never learnt; nobody can close it.
`openSet`, `learnt` speak about ids in responses the client received.
`renewLoop` (timing only) is not part of the model.
-/
namespace GV.Scanner
open GV

/-- An error — an RPC error, a cancelled context, or `io.EOF` — is reported once: whatever the
context and the remaining script are, every later `Next` answers `(nil, io.EOF)` and changes
nothing (in particular sends nothing). -/
theorem error_once_then_eof (sc : Scan) (c : Bool) (R : List Reply) (s : St) (e : String)
    (h : (next sc c R s).1.err = some e) :
    ∀ c' R', next sc c' R' (next sc c R s).2.1 = (⟨none, some "EOF"⟩, (next sc c R s).2.1, R') := by
  obtain ⟨hcl, hres⟩ := next_err_closed sc c R s (by simp [h])
  exact fun c' R' => next_of_closed sc c' R' _ hcl hres

example : (next ⟨[], [], false, false, false, 1⟩ false [.err "rpc"] (St.init ⟨[], [], false, false, false, 1⟩)).1.err
    = some "rpc" := by decide

/-- The error is returned *together with the row assembled so far*: when the loop of `Next` has
accumulated `acc` and the next request fails, the call returns `(acc, err)`. -/
theorem error_with_assembled_row (sc : Scan) (fuel : Nat) (acc : Option Frag) (R : List Reply) (s : St)
    (c : String) (s1 : St) (R1 : List Reply) (h : peek sc R s = (.err c, s1, R1)) :
    nextLoop sc (fuel + 1) acc R s = some (⟨acc, some c⟩, s1, R1) := by
  simp [nextLoop, h]

/-- Non-vacuity: the open response carries the first, partial fragment of a row and the next
request fails — `Next` returns that fragment *and* the error; the following `Next` is `io.EOF`;
the region scanner (id 7) got its close request. -/
example :
    let sc : Scan := ⟨[], [], false, false, false, 1⟩
    let R := [Reply.resp ⟨[], []⟩ ⟨[⟨[⟨[1], 0⟩], true⟩], some 7, true, true⟩, Reply.err "rpc"]
    let r1 := next sc false R (St.init sc)
    let r2 := next sc false r1.2.2 r1.2.1
    r1.1 = ⟨some ⟨[⟨[1], 0⟩], true⟩, some "rpc"⟩ ∧ r2.1 = ⟨none, some "EOF"⟩ ∧
      closesSent r2.2.1.log = [7] ∧ r2.2.1.serverOpen = [] := by decide +kernel

/-- A cancelled context is reported by the first `Next` after the cancellation (if the scanner
was still open), closes the scanner and drops what was buffered. -/
theorem cancel_reported (sc : Scan) (R : List Reply) (s : St) (h : s.closed = false) :
    next sc true R s = (⟨none, some "canceled"⟩, { close sc s with results := [] }, R) := by
  simp [next, h]

/-- `Close` is idempotent: a second `Close` changes nothing — in particular it sends nothing.
(`close` takes no script argument: it never waits for a reply, so it cannot block.) -/
theorem close_idempotent (sc : Scan) (s : St) : close sc (close sc s) = close sc s :=
  close_of_closed sc _ (close_closed sc s)

/-- `Close` sends at most one request (the asynchronous close of the current region scanner). -/
theorem close_sends_at_most_one (sc : Scan) (s : St) :
    (close sc s).log = s.log ∨
      ∃ id, s.curId = some id ∧ (close sc s).log = ⟨closeReq { s with closed := true } id, none⟩ :: s.log := by
  rw [close_eq]
  split
  · exact .inl rfl
  · unfold closeEx
    cases hcur : s.curId with
    | none => exact .inl rfl
    | some id =>
      cases sc.closing
      · exact .inr ⟨id, rfl, rfl⟩
      · exact .inl rfl

example : Reachable ⟨[], [], false, false, false, 1⟩
    (runOps ⟨[], [], false, false, false, 1⟩ [.next, .close, .cancel, .next] false [.err "rpc"]
      (St.init ⟨[], [], false, false, false, 1⟩)).2.1 :=
  ⟨[.next, .close, .cancel, .next], [.err "rpc"], rfl⟩

/-- At every reachable state the region scanners that are open at the server (among the ids the
client has learnt) are at most the scanner's current one. -/
theorem lease_invariant (sc : Scan) (s : St) (h : Reachable sc s) :
    ∀ i ∈ s.serverOpen, s.curId = some i := by
  intro i hi
  rw [St.serverOpen, h.leaseOk] at hi
  split at hi
  · cases hi
  · simpa [Option.mem_toList] using hi

/-- A closed scanner — exhausted, closed early, failed or cancelled, in whatever state that
happened — leaves no region scanner open at the server. -/
theorem no_lease_left (sc : Scan) (s : St) (h : Reachable sc s) (hc : s.closed = true) :
    s.serverOpen = [] := by
  rw [St.serverOpen, h.leaseOk, h.closedNoCur hc]
  simp

/-- … and precisely: provided the server never hands out the same scanner id twice, every id
the client learnt was either reported exhausted by the server (and then never sent a close)
or was sent exactly one close request (and never reported exhausted). -/
theorem no_lease_left_accounting (sc : Scan) (s : St) (h : Reachable sc s) (hc : s.closed = true)
    (hn : sc.closing = false) (hfresh : (learnt s.log).Nodup) :
    ∀ id ∈ learnt s.log,
      (id ∈ exhausted s.log ∧ (closesSent s.log).count id = 0) ∨
      (id ∉ exhausted s.log ∧ (closesSent s.log).count id = 1) := by
  intro id hid
  have hb := h.balance hn id
  rw [h.closedNoCur hc, hfresh.count, if_pos hid] at hb
  -- `hb : 1 = count id exhausted + count id closesSent + 0`
  by_cases he : id ∈ exhausted s.log
  · have := List.count_pos_iff.mpr he
    exact .inl ⟨he, by simp at hb; omega⟩
  · rw [List.count_eq_zero_of_not_mem he] at hb
    exact .inr ⟨he, by simp at hb; omega⟩

/-- A scan the user made with `CloseScanner()` never sends a separate close — and does not need
to: every request that opens a region scanner carries `close_scanner = true` itself, so the
server closes it with the very response that announces it (`lease_invariant` counts it so). -/
theorem closing_scan_opens_carry_close (sc : Scan) (s : St) (h : Reachable sc s) (hcl : sc.closing = true) :
    ∀ e ∈ s.log, e.req.kind = .open → e.req.closeFlag = true := by
  refine stable_reachable (log_stable sc _ (fun s rp => ?_) (fun s id => ?_)) (by simp [St.init]) h
  · cases hcur : s.curId <;> simp [mkReq, hcur, hcl]
  · simp [closeReq]

/-! Non-vacuity: a scan ended by `more_results = false` while the region scanner is still open
at the server gets its close request; an RPC error in the middle of a region too. -/

example :
    let sc : Scan := ⟨[], [], false, false, false, 1⟩
    let R := [Reply.resp ⟨[], []⟩ ⟨[⟨[⟨[1], 0⟩], false⟩], some 7, true, false⟩]
    let s := (runOps sc [.next, .next] false R (St.init sc)).2.1
    s.closed = true ∧ learnt s.log = [7] ∧ closesSent s.log = [7] ∧ s.serverOpen = [] := by decide +kernel

example :
    let sc : Scan := ⟨[], [], false, false, false, 1⟩
    let R := [Reply.resp ⟨[], []⟩ ⟨[⟨[⟨[1], 0⟩], false⟩], some 7, true, true⟩, Reply.err "rpc"]
    let s := (runOps sc [.next, .next] false R (St.init sc)).2.1
    s.closed = true ∧ closesSent s.log = [7] ∧ exhausted s.log = [] ∧ s.serverOpen = [] := by decide +kernel

/-- Regenerated from scanner.go: the lease renewer (`go s.renewLoop`) is started only while the scan
is open *and* a region scanner is open on a server (fix 1332c04).  A renewer running between two
regions sends its renew request without a scanner id; a regionserver opens a region scanner — with
a lease of its own — for such a request, and nobody ever closes it (observed as `lease-leak-*` with
renewing scans).  The lease accounting of `lease_invariant` / `no_lease_left` is about the
scanners the scan itself opened; this fact is what keeps the renewer from opening others. -/
theorem renewer_only_while_region_scanner_open_in_source :
    (GV.Gen.Selects.goStmts.filter (fun g => g.call == "s.renewLoop")).map (fun g => (g.fn, g.guard))
      = [("scanner.peek", "!s.closed && !s.isRegionScannerClosed() && s.rpc.RenewInterval() > 0")] := by decide +kernel

end GV.Scanner
