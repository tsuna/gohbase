import GohbaseVerif.Model.Classify
/-! `classifyArms` is "first hit among the arms whose table knows the class" (`hits`, `firstHit`); when no
class is in two tables there is at most one hit, and the order of the arms does not matter
(`classifyArms_perm`). -/
namespace GV.Classify
open GV.Gen

theorem infixOf_nil (l : List Char) : infixOf [] l = true := by
  cases l <;> simp [infixOf, List.isPrefixOf]

theorem contains_empty (s : String) : contains s "" = true := by
  simp [contains, infixOf_nil]

def armKeys (a : String × String) : List String := (tableOf a.1).map (·.1)

/-- the (value, class) pairs of the arms whose table has the class, in arm order -/
def hits (arms : List (String × String)) (cls : String) : List (String × ErrClass) :=
  arms.filterMap fun a => (lookup (tableOf a.1) cls).map fun v => (v, classOfType a.2)

def firstHit : List (String × ErrClass) → String → ErrClass
  | [], _ => .fatal
  | (v, k) :: rest, stack => if contains stack v then k else firstHit rest stack

theorem classifyArms_eq (arms : List (String × String)) (cls stack : String) :
    classifyArms arms cls stack = firstHit (hits arms cls) stack := by
  induction arms with
  | nil => rfl
  | cons a rest ih =>
    obtain ⟨tbl, ty⟩ := a
    simp only [classifyArms, hits, List.filterMap_cons]
    cases h : lookup (tableOf tbl) cls with
    | none => simpa [hits] using ih
    | some v =>
      simp only [Option.map_some, firstHit]
      split
      · rfl
      · simpa [hits] using ih

theorem lookup_some_mem (t : List (String × String)) (cls v : String)
    (h : lookup t cls = some v) : cls ∈ t.map (·.1) := by
  induction t with
  | nil => cases h
  | cons a rest ih =>
    obtain ⟨k, w⟩ := a
    simp only [lookup] at h
    by_cases hk : k = cls
    · simp [hk]
    · rw [if_neg hk] at h; simp [ih h]

theorem lookup_none_of_not_mem (t : List (String × String)) (cls : String)
    (h : cls ∉ t.map (·.1)) : lookup t cls = none := by
  cases hl : lookup t cls with
  | none => rfl
  | some v => exact absurd (lookup_some_mem t cls v hl) h

theorem hits_nil_of_unknown (arms : List (String × String)) (cls : String)
    (h : cls ∉ arms.flatMap armKeys) : hits arms cls = [] := by
  induction arms with
  | nil => rfl
  | cons a rest ih =>
    rw [List.flatMap_cons, List.mem_append, not_or] at h
    simp only [hits, List.filterMap_cons, lookup_none_of_not_mem _ _ h.1, Option.map_none]
    exact ih h.2

theorem hits_eq_singleton {arms : List (String × String)} (hnd : (arms.flatMap armKeys).Nodup)
    {a : String × String} (ha : a ∈ arms) {cls v : String} (hl : lookup (tableOf a.1) cls = some v) :
    hits arms cls = [(v, classOfType a.2)] := by
  induction arms with
  | nil => cases ha
  | cons b rest ih =>
    rw [List.flatMap_cons, List.nodup_append] at hnd
    obtain ⟨_, hr, hdis⟩ := hnd
    simp only [hits, List.filterMap_cons]
    rcases List.mem_cons.mp ha with rfl | ha
    · have : cls ∉ rest.flatMap armKeys := fun hm => hdis _ (lookup_some_mem _ _ _ hl) _ hm rfl
      simpa [hl, hits] using hits_nil_of_unknown rest cls this
    · have hm : cls ∈ rest.flatMap armKeys :=
        List.mem_flatMap.mpr ⟨a, ha, lookup_some_mem _ _ _ hl⟩
      rw [lookup_none_of_not_mem _ _ (fun hb => hdis _ hb _ hm rfl)]
      exact ih hr ha

theorem classifyArms_perm {p q : List (String × String)} (h : p.Perm q)
    (hnd : (q.flatMap armKeys).Nodup) (cls stack : String) :
    classifyArms p cls stack = classifyArms q cls stack := by
  have hp : (hits p cls).Perm (hits q cls) := h.filterMap _
  rw [classifyArms_eq, classifyArms_eq]
  cases hq : hits q cls with
  | nil => rw [hq] at hp; rw [hp.eq_nil]
  | cons x rest =>
    obtain ⟨a, ha, hl⟩ := List.mem_filterMap.mp (hq ▸ List.mem_cons_self : x ∈ hits q cls)
    obtain ⟨v, hv, rfl⟩ := Option.map_eq_some_iff.mp hl
    rw [hits_eq_singleton hnd ha hv] at hp
    rw [← hq, hits_eq_singleton hnd ha hv, List.perm_singleton.mp hp]

/-! ### The tables of the source

How facts about the regenerated tables are evaluated (`simp [table]`, `rfl` or `decide +kernel`, by shape)
and why not by plain `decide` is said in DESIGN.md §14.7. -/

theorem arm_tables_disjoint : (Exceptions.arms.flatMap armKeys).Nodup := by
  simp [Exceptions.arms, armKeys, tableOf, Exceptions.retryableTable, Exceptions.regionTable,
    Exceptions.serverTable]

theorem arm_tables_within_names : ∀ k ∈ Exceptions.arms.flatMap armKeys, k ∈ tableNames := by
  simp [Exceptions.arms, armKeys, tableOf, tableNames, Exceptions.retryableTable, Exceptions.regionTable,
    Exceptions.serverTable]

/-- Rewrite with this before `simp` on a literal class: `hits` is scanned by the literal simproc of `simp`,
while `classifyArms` leaves a `match` that only evaluation by the kernel gets through. -/
theorem classify_eq (cls stack : String) :
    classify cls stack = firstHit (hits Exceptions.arms cls) stack := classifyArms_eq ..

theorem classify_unknown (cls stack : String) (h : cls ∉ tableNames) : classify cls stack = .fatal := by
  rw [classify_eq, hits_nil_of_unknown _ cls fun hm => h (arm_tables_within_names _ hm)]
  rfl

/-- the value of nearly every table entry is `""`, which every stack contains -/
theorem classify_of_hits (cls stack : String) (k : ErrClass)
    (h : hits Exceptions.arms cls = [("", k)]) : classify cls stack = k := by
  rw [classify_eq, h]
  simp [firstHit, contains_empty]

end GV.Classify
