import GohbaseVerif.Basic
/-! Big-endian integers (`beNat`, `toBE`): length, bound, the two round trips, and a field at the
head of a byte string. -/
namespace GV

@[simp] theorem length_toBE (n v : Nat) : (toBE n v).length = n := by
  induction n with
  | zero => rfl
  | succ n ih => simp [toBE, ih]

theorem beNat_lt (b : Bytes) : beNat b < 256 ^ b.length := by
  induction b with
  | nil => simp [beNat]
  | cons x xs ih =>
    simp only [beNat, List.length_cons, Nat.pow_succ]
    have := x.toNat_lt
    have h1 : x.toNat * 256 ^ xs.length ≤ 255 * 256 ^ xs.length := Nat.mul_le_mul_right _ (by omega)
    omega

theorem beNat_take_lt (b : Bytes) (n : Nat) : beNat (b.take n) < 256 ^ n :=
  Nat.lt_of_lt_of_le (beNat_lt (b.take n)) (Nat.pow_le_pow_right (by decide) (List.length_take_le n b))

theorem beNat_toBE (n v : Nat) : beNat (toBE n v) = v % 256 ^ n := by
  induction n with
  | zero => simp [toBE, beNat, Nat.mod_one]
  | succ n ih =>
    simp only [toBE, beNat, length_toBE, ih, UInt8.toNat_ofNat']
    rw [Nat.mod_mod_of_dvd _ (by decide : 256 ∣ 2 ^ 8), Nat.pow_succ, Nat.mod_mul, Nat.mul_comm, Nat.add_comm]

theorem beNat_toBE_of_lt {n v : Nat} (h : v < 256 ^ n) : beNat (toBE n v) = v := by
  rw [beNat_toBE, Nat.mod_eq_of_lt h]

theorem toBE_add_mul (n a r : Nat) : toBE n (a * 256 ^ n + r) = toBE n r := by
  induction n generalizing a with
  | zero => rfl
  | succ n ih =>
    simp only [toBE]
    have e : a * 256 ^ (n + 1) = (a * 256) * 256 ^ n := by rw [Nat.pow_succ, Nat.mul_assoc, Nat.mul_comm 256]
    rw [e, ih]
    congr 2
    have hpos : 0 < 256 ^ n := Nat.pow_pos (by decide)
    rw [Nat.add_comm, Nat.add_mul_div_right _ _ hpos, Nat.add_mul_mod_self_right]

theorem toBE_beNat (x : Bytes) : toBE x.length (beNat x) = x := by
  induction x with
  | nil => rfl
  | cons a xs ih =>
    simp only [List.length_cons, toBE, beNat]
    rw [toBE_add_mul, ih]
    congr 1
    have hpos : 0 < 256 ^ xs.length := Nat.pow_pos (by decide)
    rw [Nat.add_comm, Nat.add_mul_div_right _ _ hpos, Nat.div_eq_of_lt (beNat_lt xs), Nat.zero_add,
      Nat.mod_eq_of_lt a.toNat_lt, UInt8.ofNat_toNat]

theorem take_toBE_append (n v : Nat) (t : Bytes) : (toBE n v ++ t).take n = toBE n v :=
  List.take_left' (length_toBE n v)

theorem drop_toBE_append (n v : Nat) (t : Bytes) : (toBE n v ++ t).drop n = t :=
  List.drop_left' (length_toBE n v)

theorem set_toBE_append (n v : Nat) (t : Bytes) (i : Nat) (a : UInt8) :
    (toBE n v ++ t).set (n + i) a = toBE n v ++ t.set i a := by
  rw [List.set_append_right _ _ (by rw [length_toBE]; exact Nat.le_add_right n i), length_toBE,
    Nat.add_sub_cancel_left]

theorem eq_toBE_append {n : Nat} {b : Bytes} (h : n ≤ b.length) :
    b = toBE n (beNat (b.take n)) ++ b.drop n := by
  have := toBE_beNat (b.take n)
  rw [List.length_take, Nat.min_eq_left h] at this
  rw [this, List.take_append_drop]

end GV
