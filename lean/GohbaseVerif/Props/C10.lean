import GohbaseVerif.Lemmas.Cell
/-!
# C10 — Cell encoding is lossless and both mutation encodings agree

`appendCellblock`/`cellFromCellBlock`/`deserializeCellBlocks`/`valuesToCellblocks`/`valuesToProto`
are the models of the Go functions of the same names; `Spec.kvDecode` is the independent KeyValue
parser; the correspondence run ties the models to the code.

Size hypotheses are exactly the ones C10 quantifies over: row shorter than 2^16, family shorter
than 2^8, 64-bit timestamp. The round trips state the size bound as `< 2^32` (the `uint32` length
words), which covers the `< 2^31` of the property; `encodings_agree` and `count_eq_cells_int` need
`< 2^31` itself, for the `int32` count.
-/
namespace GV.Cell
open GV

/-- With the regenerated `cellblockLen` formula the bytes `appendCellblock` adds are exactly the field
layout: nothing is cut, nothing is padding. -/
theorem appendCellblock_is_layout (row fam qual val : Bytes) (ts : Nat) (typ : UInt8) :
    appendCellblock row fam qual val ts typ = layout row fam qual val ts typ :=
  appendCellblock_eq_layout row fam qual val ts typ

/-- Bytes written = `cellblockLen` of the field lengths (what `valuesToCellblocks` pre-computes). -/
theorem length_eq_cellblockLen' (row fam qual val : Bytes) (ts : Nat) (typ : UInt8) :
    (appendCellblock row fam qual val ts typ).length
      = cellblockLen row.length fam.length qual.length val.length :=
  length_eq_cellblockLen row fam qual val ts typ

/-- The client's own decoder inverts the encoder on every cell C10 quantifies over, whatever
follows in the buffer, and consumes exactly the bytes that were written. -/
theorem decode_encode (row fam qual val : Bytes) (ts : Nat) (typ : UInt8) (rest : Bytes)
    (hr : row.length < 2 ^ 16) (hf : fam.length < 2 ^ 8) (hts : ts < 2 ^ 64)
    (htot : cellblockLen row.length fam.length qual.length val.length < 2 ^ 32) :
    cellFromCellBlock (appendCellblock row fam qual val ts typ ++ rest)
      = .ok (⟨row, fam, qual, ts, typ, val⟩, (appendCellblock row fam qual val ts typ).length) := by
  rw [← length_eq_cellblockLen row fam qual val ts typ] at htot
  exact decode_encodeCell ⟨row, fam, qual, ts, typ, val⟩ rest ⟨hr, hf, hts⟩ htot

/-- The independent KeyValue parser reads the same cell and the same length. -/
theorem kvDecode_encode (row fam qual val : Bytes) (ts : Nat) (typ : UInt8) (rest : Bytes)
    (hr : row.length < 2 ^ 16) (hf : fam.length < 2 ^ 8) (hts : ts < 2 ^ 64)
    (htot : cellblockLen row.length fam.length qual.length val.length < 2 ^ 32) :
    Spec.kvDecode (appendCellblock row fam qual val ts typ ++ rest)
      = some (⟨row, fam, qual, ts, typ, val⟩, (appendCellblock row fam qual val ts typ).length) := by
  rw [← length_eq_cellblockLen row fam qual val ts typ] at htot
  exact kvDecode_encodeCell ⟨row, fam, qual, ts, typ, val⟩ rest ⟨hr, hf, hts⟩ htot

/-- Both decoders agree on every encoded cell. -/
theorem decoders_agree_on_encoded (c : Cell) (rest : Bytes) (hv : c.Valid)
    (htot : (encodeCell c).length < 2 ^ 32) :
    cellFromCellBlock (encodeCell c ++ rest) = .ok (c, (encodeCell c).length) ∧
    Spec.kvDecode (encodeCell c ++ rest) = some (c, (encodeCell c).length) :=
  ⟨decode_encodeCell c rest hv htot, kvDecode_encodeCell c rest hv htot⟩

/-- `deserializeCellBlocks` on `n` encoded cells followed by anything returns exactly those cells
and the number of bytes they occupy. -/
theorem stream_roundtrip (cells : List Cell) (rest : Bytes) (hv : ∀ c ∈ cells, c.Valid)
    (htot : (cells.flatMap encodeCell).length < 2 ^ 32) :
    deserializeCellBlocks (cells.flatMap encodeCell ++ rest) cells.length
      = .ok (cells, (cells.flatMap encodeCell).length) := by
  have := deserializeFrom_encoded cells [] rest hv (by simpa using htot)
  have hge := mul_length_le_flatMap_encodeCell cells
  -- the count guard `len(b)/minCellLen < cellsLen` of `deserializeCellBlocks` lets the cells through
  have hguard : ¬ (cells.flatMap encodeCell ++ rest).length / minCellLen < cells.length := by
    rw [List.length_append, Nat.not_lt]
    apply (Nat.le_div_iff_mul_le (by decide)).mpr
    rw [Nat.mul_comm]; omega
  unfold deserializeCellBlocks
  rw [if_neg hguard]
  simpa using this

/-- … and so does the independent parser. -/
theorem stream_roundtrip_kv (cells : List Cell) (rest : Bytes) (hv : ∀ c ∈ cells, c.Valid)
    (htot : (cells.flatMap encodeCell).length < 2 ^ 32) :
    Spec.kvDecodeN cells.length (cells.flatMap encodeCell ++ rest)
      = some (cells, (cells.flatMap encodeCell).length) :=
  kvDecodeN_encoded cells rest hv htot

/-- The regenerated type codes are HBase's `KeyValue.Type` codes `Put=4, Delete=8,
DeleteFamilyVersion=10, DeleteColumn=12, DeleteFamily=14`. -/
theorem type_codes :
    UInt8.ofNat Gen.Cell.putType = 4 ∧ UInt8.ofNat Gen.Cell.deleteType = 8 ∧
    UInt8.ofNat Gen.Cell.deleteFamilyVersionType = 10 ∧
    UInt8.ofNat Gen.Cell.deleteColumnType = 12 ∧ UInt8.ofNat Gen.Cell.deleteFamilyType = 14 :=
  gen_type_codes

theorem gen_cell_shape : Gen.Cell.shapeOk = true := by decide

/-- The protobuf form and the cellblock form of one mutation denote the same multiset of cells
— for every mutation kind, both `deleteOneVersion` settings (hence all four delete variants),
timestamp set or not, every map (nil / empty / populated inner maps) and *every* iteration order:
`mp` is the order `valuesToProto` ranges in, `m1`/`m2` the orders of the two passes of
`valuesToCellblocks`, all three orders of the same map `m`.
The cellblock side is read back with the independent parser (`Spec.cellsOfCellblocks`); the
protobuf side with `Spec.cellsOfProto` (delete kinds ↔ codes 8/12/14/10, put/append/increment ↔ 4,
absent timestamp ↔ `Long.MAX_VALUE`); both equal the cells read off the map directly. -/
theorem encodings_agree (mu : Mut) (m mp m1 m2 : VMap)
    (hp : SameMap m mp) (h1 : SameMap m m1) (h2 : SameMap m m2)
    (hkey : mu.key.length < 2 ^ 16) (hts : mu.timestamp < 2 ^ 64)
    (hfam : ∀ e ∈ m, e.1.length < 2 ^ 8)
    (hsize : ((Spec.intendedCells mu m).flatMap encodeCell).length < 2 ^ 31) :
    ∃ cbs count size cells,
      valuesToCellblocks mu m1 m2 = .ok (cbs, count, size) ∧
      Spec.cellsOfCellblocks cbs count = some cells ∧
      cells.Perm (Spec.cellsOfProto mu.kind mu.key (valuesToProto mu mp (protoTs mu))) ∧
      cells.Perm (Spec.intendedCells mu m) := by
  have hb : ((writtenCells mu m2).flatMap encodeCell).length < 2 ^ 31 := by
    rw [flatMap_encodeCell_length_perm (writtenCells_perm mu h2.symm), writtenCells_intended]
    exact hsize
  have hn : (writtenCells mu m2).length < 2 ^ 31 :=
    Nat.lt_of_le_of_lt (length_le_flatMap_encodeCell _) hb
  refine ⟨_, _, _, writtenCells mu m2, valuesToCellblocks_ok mu m1 m2 (h1.symm.trans h2), ?_, ?_, ?_⟩
  · rw [toInt32_of_lt hn]
    exact cellsOfCellblocks_encoded _
      (writtenCells_valid mu m2 hkey hts (h2.family_bound _ hfam)) (by omega)
  · rw [cellsOfProto_intended, ← writtenCells_intended]
    exact writtenCells_perm mu (h2.symm.trans hp)
  · rw [← writtenCells_intended]
    exact writtenCells_perm mu h2.symm

/-- `valuesToCellblocks` never reaches `panic("cellblocks len mismatch")`: for every mutation,
every map and every pair of iteration orders the outcome is `ok`, the bytes are the encodings of
the cells of the second pass, and the count is `int32` of their number. No size hypothesis. -/
theorem count_eq_cells (mu : Mut) (m m1 m2 : VMap) (h1 : SameMap m m1) (h2 : SameMap m m2) :
    valuesToCellblocks mu m1 m2
      = .ok ((writtenCells mu m2).flatMap encodeCell, toInt32 (writtenCells mu m2).length,
             ((writtenCells mu m2).flatMap encodeCell).length % two32) :=
  valuesToCellblocks_ok mu m1 m2 (h1.symm.trans h2)

theorem valuesToCellblocks_no_fault (mu : Mut) (m m1 m2 : VMap) (h1 : SameMap m m1)
    (h2 : SameMap m m2) : (valuesToCellblocks mu m1 m2).isFault = false := by
  rw [count_eq_cells mu m m1 m2 h1 h2]; rfl

/-- Below 2^31 cells the returned `int32` *is* the number of cells written, and it is the number of
cells of the map (`Spec.intendedCells`). -/
theorem count_eq_cells_int (mu : Mut) (m m1 m2 : VMap) (h1 : SameMap m m1) (h2 : SameMap m m2)
    (hn : (Spec.intendedCells mu m).length < 2 ^ 31) :
    ∃ cbs size, valuesToCellblocks mu m1 m2 = .ok (cbs, ((Spec.intendedCells mu m).length : Int), size) := by
  have hl : (writtenCells mu m2).length = (Spec.intendedCells mu m).length := by
    rw [← writtenCells_intended]; exact (writtenCells_perm mu h2.symm).length_eq
  rw [count_eq_cells mu m m1 m2 h1 h2, hl, toInt32_of_lt hn]
  exact ⟨_, _, rfl⟩

/-- Every iteration order is covered: any permutation of the outer map is a `SameMap`. -/
theorem sameMap_of_perm {m m' : VMap} (h : m.Perm m') : SameMap m m' := by
  induction h with
  | nil => exact .nil
  | cons a _ ih => exact .cons a ih
  | swap a b m => exact .swap b a m
  | trans _ _ ih1 ih2 => exact .trans ih1 ih2

/-! ## Non-vacuity -/

/-- A valid cell with an empty qualifier and value, timestamp 2^63, type DeleteFamily. -/
example : (⟨[1, 2], [3], [], 2 ^ 63, 14, []⟩ : Cell).Valid := by
  refine ⟨by decide, by decide, by decide⟩
example : cellFromCellBlock (encodeCell ⟨[1, 2], [3], [4], 2 ^ 63, 14, [9]⟩ ++ [7, 7])
    = .ok (⟨[1, 2], [3], [4], 2 ^ 63, 14, [9]⟩, 29) := by decide +kernel
example : Spec.kvDecode (encodeCell ⟨[1, 2], [3], [4], 2 ^ 63, 14, [9]⟩ ++ [7, 7])
    = some (⟨[1, 2], [3], [4], 2 ^ 63, 14, [9]⟩, 29) := by decide +kernel
/-- A family of 256 bytes is outside the property: its length byte `byte(len(family))` is 0
(why `hf` is needed). -/
example : UInt8.ofNat 256 = 0 := by decide
/-- `SameMap` relates a map to a reordering of its outer and inner entries. -/
example : SameMap [([1], some [([2], [3]), ([4], [])]), ([5], none)]
    [([5], none), ([1], some [([4], []), ([2], [3])])] :=
  .trans (.consSome [1] (List.Perm.swap _ _ _) (SameMap.refl _)) (.swap _ _ _)
set_option maxRecDepth 8192 in
/-- A delete with a nil inner map, an empty inner map and two qualifiers, `deleteOneVersion`,
no timestamp: four cells (10, 10, 8, 8) with timestamp `Long.MAX_VALUE` in both forms — the family
named with an empty qualifier map is deleted as a family, like the one with a nil map (fix bf0fa0b:
a family that contributes no cell leaves a delete without cells, which removes the whole row). -/
example :
    let mu : Mut := ⟨[1], .delete, maxTimestamp, true⟩
    let m : VMap := [([10], none), ([11], some []), ([12], some [([1], [2]), ([], [])])]
    (valuesToCellblocks mu m m).map (fun r => (Spec.cellsOfCellblocks r.1 r.2.1))
      = .ok (some (Spec.cellsOfProto mu.kind mu.key (valuesToProto mu m (protoTs mu))))
    ∧ (Spec.intendedCells mu m).map (·.typ) = [10, 10, 8, 8] := by decide +kernel
/-- A *put* with a nil inner map writes no cell and counts none (fix 4999c8f: counting an
`emptyQualifier` cell for it makes the two passes disagree). -/
example : valuesToCellblocks ⟨[1], .put, maxTimestamp, false⟩ [([10], none)] [([10], none)]
    = .ok ([], 0, 0) := by decide

/-! ## Mutations inside a multi-request: how a reader attributes cells to actions

A multi-request carries one cellblock stream for all its actions; each mutation only says how
many cells are its own (`associated_cell_count`). A reader takes the cells off the stream in
request order. `dealOut` is that procedure (it is also what `harness/c10batch.go` does before it
hands each action to the single-mutation judgement). -/

/-- Take `n₁` cells for the first action, `n₂` for the second, … off the stream. -/
def dealOut {α : Type} : List Nat → List α → List (List α)
  | [], _ => []
  | n :: ns, xs => xs.take n :: dealOut ns (xs.drop n)

/-- **If the cells are written in the order of the actions, every action gets back exactly its own
cells** — whatever the counts (also zero-cell mutations such as whole-row deletes) and however many
actions there are. -/
theorem dealOut_flatten {α : Type} (ls : List (List α)) :
    dealOut (ls.map List.length) ls.flatten = ls := by
  induction ls with
  | nil => rfl
  | cons l ls ih =>
    simp only [List.map_cons, List.flatten_cons, dealOut, List.take_left', List.drop_left']
    rw [ih]

/-- … and the stream is used up: nothing is left over for a reader to trip on. -/
theorem dealOut_consumes {α : Type} (ls : List (List α)) :
    (ls.map List.length).sum = ls.flatten.length :=
  List.length_flatten.symm

/-- The other direction is what the seeded change C10-m8 / C12-m10 shows: with the counts in
action order and the cells in another order, actions receive each other's cells (here a one-cell
put and a two-cell put swapped). -/
example : dealOut [1, 2] ([[20, 21], [10]] : List (List Nat)).flatten = [[20], [21, 10]] := by decide

end GV.Cell
