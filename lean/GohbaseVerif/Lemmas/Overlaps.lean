import GohbaseVerif.Lemmas.Cache
import GohbaseVerif.Lemmas.ListFacts
/-! `getOverlaps` finds every cached region that overlaps — on a sorted, overlap-free cache. -/
namespace GV.Cache
open GV GV.RegionName

/-- What `getOverlaps` needs of the region it is asked about: a table name that can be compared. -/
structure Region.TableOK (r : Region) : Prop where
  fqNoComma : comma ∉ r.fq
  tblNoColon : colon ∉ r.tbl
  fqLen : r.fq.length + 3 ≤ 32767

theorem Region.WF.tableOK {r : Region} (h : r.WF) : r.TableOK :=
  ⟨h.fqNoComma, h.tblNoColon, by have := h.fqStartLen; omega⟩

/-- `isRegionOverlap` compares `(namespace, table)`, the cache lookup the fully-qualified name. -/
theorem fq_eq_iff {a b : Region} (ha : colon ∉ a.tbl) (hb : colon ∉ b.tbl) :
    a.fq = b.fq ↔ a.ns = b.ns ∧ a.tbl = b.tbl := by
  constructor
  · intro h
    unfold Region.fq at h
    by_cases h1 : a.ns = []
    · by_cases h2 : b.ns = []
      · rw [if_pos h1, if_pos h2] at h
        exact ⟨h1.trans h2.symm, h⟩
      · -- only `b` has a namespace: its `:` would be in `a.tbl`
        rw [if_pos h1, if_neg h2] at h
        exact absurd (by rw [h]; simp) ha
    · by_cases h2 : b.ns = []
      · rw [if_neg h1, if_pos h2] at h
        exact absurd (by rw [← h]; simp) hb
      · -- both have one: the table starts after the last `:`
        rw [if_neg h1, if_neg h2] at h
        exact append_sep_inj h (.inr hb) (.inr ha)
  · rintro ⟨h1, h2⟩
    unfold Region.fq
    rw [h1, h2]

theorem overlap_iff (a b : Region) :
    overlap a b = true ↔ a.ns = b.ns ∧ a.tbl = b.tbl ∧ (b.stop = [] ∨ bcmp a.start b.stop = .lt) ∧
      (a.stop = [] ∨ bcmp b.start a.stop = .lt) := by
  simp only [overlap, Bool.and_eq_true, beq_iff_eq, Bool.or_eq_true, List.isEmpty_iff, and_assoc,
    bcmp_gt_iff_lt]

theorem overlap_symm (a b : Region) : overlap a b = overlap b a := by
  rw [Bool.eq_iff_iff, overlap_iff, overlap_iff]
  constructor <;> rintro ⟨h1, h2, h3, h4⟩ <;> exact ⟨h1.symm, h2.symm, h4, h3⟩

theorem overlap_false_symm {a b : Region} (h : overlap a b = false) : overlap b a = false := by
  rw [overlap_symm]; exact h

theorem overlap_iff_fq {a b : Region} (ha : colon ∉ a.tbl) (hb : colon ∉ b.tbl) :
    overlap a b = true ↔ a.fq = b.fq ∧ (b.stop = [] ∨ bcmp a.start b.stop = .lt) ∧
      (a.stop = [] ∨ bcmp b.start a.stop = .lt) := by
  rw [overlap_iff, fq_eq_iff ha hb, and_assoc]

/-- An entry of table `t` reaching beyond `k` overlaps every later entry that sorts below `t,k,:`. -/
theorem reaches_overlaps {o v : Region} (ho : o.WF) (hv : v.WF) (hlt : nameLt o v) {t k : Bytes}
    (hB : Below t k v) (hfq : o.fq = t) (hstop : o.stop = [] ∨ bcmp k o.stop = .lt) :
    overlap o v = true := by
  rw [overlap_iff_fq ho.tblNoColon hv.tblNoColon]
  have hov := nameLt_below ho hv hlt
  -- `o.fq ≤ v.fq ≤ t = o.fq`
  have e : o.fq = v.fq := bcmp_le_antisymm hov.fq_le (hfq ▸ hB.fq_le)
  exact ⟨e, hv.range.imp_right (bcmp_lt_of_le_of_lt (hov.start_le e)),
    hstop.imp_right (bcmp_lt_of_le_of_lt (hB.start_le (e ▸ hfq)))⟩

/-- … so in a good cache no entry below `t,k,:` comes behind it. -/
theorem GoodL.not_reaches {l : List Region} (hg : GoodL l) {o v : Region} (hov : [o, v].Sublist l)
    {t k : Bytes} (hB : Below t k v) (hfq : o.fq = t) :
    ¬ (o.stop = [] ∨ bcmp k o.stop = .lt) := fun hstop => by
  have h := reaches_overlaps (hg.wf o (hov.subset (by simp))) (hg.wf v (hov.subset (by simp)))
    (List.pairwise_pair.mp (hg.sorted.sublist hov)) hB hfq hstop
  rw [List.pairwise_pair.mp (hg.disjoint.sublist hov)] at h
  cases h

/-- Above the search key of `r`, the entries overlapping `r` come first. -/
theorem overlap_of_later_overlap {x y r : Region} (hx : x.WF) (hy : y.WF) (hr : colon ∉ r.tbl)
    (hlt : nameLt x y) (hnB : ¬ Below r.fq r.start x) (hov : overlap y r = true) :
    overlap x r = true := by
  rw [overlap_iff_fq hy.tblNoColon hr] at hov
  obtain ⟨hfq, h2, _⟩ := hov
  rw [overlap_iff_fq hx.tblNoColon hr]
  rcases nameLt_below hx hy hlt with h | ⟨e, hs⟩
  · rw [hfq] at h; exact absurd (.inl h) hnB
  · have hxfq : x.fq = r.fq := e.trans hfq
    have hstart : bcmp r.start x.start = .lt :=
      (bcmp_le_total x.start r.start).resolve_left fun h => hnB (.inr ⟨hxfq, h⟩)
    exact ⟨hxfq, h2.imp_right (bcmp_lt_of_le_of_lt hs), hx.range.imp_right (bcmp_trans_lt hstart)⟩

/-- The list `getOverlaps_eq` computes (`v` as there) is the filter. -/
theorem walk_eq_filter {l : List Region} (hg : GoodL l) {r : Region} (hr : colon ∉ r.tbl) {p : Nat}
    {v : Region} (hv : l[p - 1]? = some v)
    (hbelow : ∀ x ∈ l.take p, Below r.fq r.start x) (habove : ∀ y ∈ l.drop p, ¬ Below r.fq r.start y) :
    (if overlap v r then [v] else []) ++ (l.drop (p - 1 + 1)).takeWhile (overlap · r)
      = l.filter (overlap · r) := by
  obtain ⟨hlt, hvl⟩ := List.getElem?_eq_some_iff.mp hv
  have hsplit : l = l.take (p - 1) ++ v :: l.drop (p - 1 + 1) := by
    rw [← hvl, ← List.drop_eq_getElem_cons hlt, List.take_append_drop]
  have hwf : ∀ x ∈ l.drop (p - 1 + 1), x.WF := fun x hx => hg.wf x (List.mem_of_mem_drop hx)
  have hfront : (l.take (p - 1)).filter (overlap · r) = [] := by
    rw [List.filter_eq_nil_iff]
    intro a ha hov
    have hp : p ≠ 0 := fun e => by simp [e] at ha
    have hvB : Below r.fq r.start v :=
      hbelow v (List.mem_take_iff_getElem.mpr ⟨p - 1, by omega, hvl⟩)
    obtain ⟨hfq, _, hreach⟩ :=
      (overlap_iff_fq (hg.wf a (List.mem_of_mem_take ha)).tblNoColon hr).mp hov
    refine hg.not_reaches (hsplit ▸ ?_) hvB hfq hreach
    exact (List.singleton_sublist.mpr ha).append (List.singleton_sublist.mpr List.mem_cons_self)
  have hback : (l.drop (p - 1 + 1)).filter (overlap · r)
      = (l.drop (p - 1 + 1)).takeWhile (overlap · r) := by
    apply filter_eq_takeWhile
    refine List.Pairwise.imp_of_mem ?_ (hg.sorted.sublist (List.drop_sublist _ _))
    intro x y hx hy hlt
    exact overlap_of_later_overlap (hwf x hx) (hwf y hy) hr hlt
      (habove x ((List.drop_sublist_drop_left l (by omega : p ≤ p - 1 + 1)).subset hx))
  conv => rhs; rw [hsplit]
  rw [List.filter_append, hfront, List.nil_append, List.filter_cons, hback]
  split <;> rfl

theorem getOverlaps_filter {l : List Region} (hg : GoodL l) {r : Region} (hr : r.TableOK) :
    getOverlaps l r = .ok (l.filter (overlap · r)) := by
  by_cases hne : l = []
  · subst hne; simp [getOverlaps]
  · obtain ⟨p, hs, hp, hbelow, habove⟩ := seek_searchKey hg.wf hg.sorted hr.fqNoComma r.start
    obtain ⟨v, hv, hgo⟩ := getOverlaps_eq hne (searchKeyO_ok hr.fqLen r.start) hs hp
    rw [hgo, walk_eq_filter hg hr.tblNoColon hv hbelow habove]

end GV.Cache
