import GohbaseVerif.Model.Batch
import GohbaseVerif.Lemmas.ListFacts
/-!
The result slice read by call. Every write `SendBatch` makes changes the slot of one call by a function
of that call's own script, so its three write loops are one loop, `writeAll`, and `getSlot_writeAll`
says what it leaves in any slot. Then the grouping by region client, the calls `findClients` drops, and
the region actions of `Multi.toProto`.
-/
namespace GV.Batch

theorem firstIdx_eq_idxOf (c : Nat) (l : List Nat) : firstIdx c l = l.idxOf c := by
  induction l with
  | nil => rfl
  | cons x xs ih => simp only [firstIdx, List.idxOf_cons, ih, beq_iff_eq, cond_eq_ite]

theorem rpcToRes_eq {b0 : List Nat} {c : Nat} (h : c ∈ b0) : rpcToRes b0 c = b0.idxOf c := by
  rw [rpcToRes, if_pos h, firstIdx_eq_idxOf]

theorem rpcToRes_lt {b0 : List Nat} {c : Nat} (h : c ∈ b0) : rpcToRes b0 c < b0.length :=
  rpcToRes_eq h ▸ List.idxOf_lt_length_of_mem h

theorem getElem_rpcToRes {b0 : List Nat} {c : Nat} (h : c ∈ b0) : b0[rpcToRes b0 c]'(rpcToRes_lt h) = c := by
  simp only [rpcToRes_eq h, List.getElem_idxOf]

theorem rpcToRes_inj {b0 : List Nat} {c d : Nat} (hc : c ∈ b0) (hd : d ∈ b0)
    (h : rpcToRes b0 c = rpcToRes b0 d) : c = d := by
  rw [← getElem_rpcToRes hc, ← getElem_rpcToRes hd]
  simp only [h]

theorem rpcToRes_getElem_of_nodup {b0 : List Nat} (hn : b0.Nodup) (i : Nat) (hi : i < b0.length) :
    rpcToRes b0 b0[i] = i := by
  rw [rpcToRes_eq (List.getElem_mem hi), hn.idxOf_getElem]

theorem getSlot_eq {b0 : List Nat} {res : List Slot} {c : Nat} (hc : c ∈ b0) (hl : res.length = b0.length) :
    getSlot b0 res c = res[rpcToRes b0 c]'(hl ▸ rpcToRes_lt hc) := by
  have hlt : rpcToRes b0 c < res.length := hl ▸ rpcToRes_lt hc
  simp only [getSlot, List.getD_eq_getElem?_getD, List.getElem?_eq_getElem hlt, Option.getD_some]

theorem getSlot_eq_getElem {b0 : List Nat} {res : List Slot} (hn : b0.Nodup) (hl : res.length = b0.length)
    (i : Nat) (hi : i < b0.length) : getSlot b0 res b0[i] = res[i]'(by omega) := by
  simp only [getSlot_eq (List.getElem_mem hi) hl, rpcToRes_getElem_of_nodup hn i hi]

theorem slots_forall_iff {b0 : List Nat} {res : List Slot} (hn : b0.Nodup) (hl : res.length = b0.length)
    (P : Slot → Prop) : (∀ c ∈ b0, P (getSlot b0 res c)) ↔ ∀ s ∈ res, P s := by
  constructor
  · intro h s hs
    obtain ⟨i, hi, rfl⟩ := List.getElem_of_mem hs
    have hi' : i < b0.length := by omega
    have := h b0[i] (List.getElem_mem hi')
    rwa [getSlot_eq_getElem hn hl i hi'] at this
  · intro h c hc
    rw [getSlot_eq hc hl]
    exact h _ (List.getElem_mem _)

/-- `res[rpcToRes[c]] = f res[rpcToRes[c]]` -/
def upd (b0 : List Nat) (f : Slot → Slot) (res : List Slot) (c : Nat) : List Slot :=
  res.modify (rpcToRes b0 c) f

theorem setRes_eq_upd (b0 res c s) : setRes b0 res c s = upd b0 (fun _ => s) res c :=
  -- `⟨s⟩`: the `Inhabited Slot` the core lemma asks for
  (@List.modify_eq_set _ ⟨s⟩ (fun _ => s) (rpcToRes b0 c) res).symm

theorem setErr_eq_upd (b0 res c e) :
    setErr b0 res c e = upd b0 (fun s => { s with err := some e }) res c := rfl

theorem upd_id (b0 res c) : upd b0 (fun s => s) res c = res := List.modify_id ..

@[simp] theorem length_upd (b0 f res c) : (upd b0 f res c).length = res.length := by simp [upd]

theorem getSlot_upd {b0 : List Nat} {res : List Slot} {f : Slot → Slot} {c d : Nat} (hc : c ∈ b0)
    (hd : d ∈ b0) (hl : res.length = b0.length) :
    getSlot b0 (upd b0 f res c) d = if d = c then f (getSlot b0 res d) else getSlot b0 res d := by
  rw [getSlot_eq hd (by rw [length_upd, hl]), getSlot_eq hd hl]
  simp only [upd, List.getElem_modify]
  by_cases h : d = c
  · simp [h]
  · rw [if_neg (fun e => h (rpcToRes_inj hc hd e).symm), if_neg h]

/-- a loop over calls in which call `c` does `f c` to its own slot -/
def writeAll (b0 : List Nat) (f : Nat → Slot → Slot) (cs : List Nat) (res : List Slot) : List Slot :=
  cs.foldl (fun res c => upd b0 (f c) res c) res

@[simp] theorem writeAll_nil (b0 f res) : writeAll b0 f [] res = res := rfl

theorem writeAll_cons (b0 f c cs res) :
    writeAll b0 f (c :: cs) res = writeAll b0 f cs (upd b0 (f c) res c) := rfl

theorem writeAll_append (b0 f xs ys res) :
    writeAll b0 f (xs ++ ys) res = writeAll b0 f ys (writeAll b0 f xs res) := List.foldl_append ..

@[simp] theorem length_writeAll (b0 f cs res) : (writeAll b0 f cs res).length = res.length := by
  induction cs generalizing res with
  | nil => rfl
  | cons c cs ih => rw [writeAll_cons, ih, length_upd]

/-- No `Nodup` is asked of `cs`: a call passed twice to `SendBatch` shares one slot, and `hf` (writing
twice is writing once) keeps the equation exact. -/
theorem getSlot_writeAll {b0 : List Nat} {f : Nat → Slot → Slot} (hf : ∀ c s, f c (f c s) = f c s)
    {cs : List Nat} {res : List Slot} (hcs : ∀ c ∈ cs, c ∈ b0) (hl : res.length = b0.length) {d : Nat}
    (hd : d ∈ b0) :
    getSlot b0 (writeAll b0 f cs res) d = if d ∈ cs then f d (getSlot b0 res d) else getSlot b0 res d := by
  induction cs generalizing res with
  | nil => simp
  | cons c cs ih =>
    rw [writeAll_cons, ih (fun x hx => hcs x (List.mem_cons_of_mem _ hx)) (by simp [hl]),
      getSlot_upd (hcs c (List.mem_cons_self ..)) hd hl]
    by_cases hdc : d = c
    · subst hdc; simp [hf]
    · simp [hdc]

/-- first loop of `waitForCompletion`: what the answer of call `c` does to its slot -/
def handled (c : Nat) : Ans → Slot → Slot
  | .ok m, _ => ⟨some m, none⟩
  | .fail cls t, _ => ⟨none, some (.ans cls t)⟩
  | .ownDone, s => { s with err := some (.ownCtx c) }
  | .silent, s => s  -- never read: `handle` faults on `.silent` (hence `Flat.answered`, `Pass.answered`)

/-- second loop (non-blocking reads after cancellation) -/
def swept : Ans → Slot → Slot
  | .ok m, _ => ⟨some m, none⟩
  | .fail cls t, _ => ⟨none, some (.ans cls t)⟩
  | _, s => { s with err := some .batchCtx }

/-- the copy of `findClients`' errors -/
def located (rd : Round) (c : Nat) (s : Slot) : Slot :=
  match rd.locate c with
  | .error e => ⟨none, some e⟩
  | .ok _ => s

theorem located_error {rd : Round} {c : Nat} {e : Err} (h : rd.locate c = .error e) (s : Slot) :
    located rd c s = ⟨none, some e⟩ := by
  rw [located, h]

theorem located_ok {rd : Round} {c k : Nat} (h : rd.locate c = .ok k) (s : Slot) : located rd c s = s := by
  rw [located, h]

theorem handled_idem (c a s) : handled c a (handled c a s) = handled c a s := by cases a <;> rfl
theorem swept_idem (a s) : swept a (swept a s) = swept a s := by cases a <;> rfl
theorem located_idem (rd c s) : located rd c (located rd c s) = located rd c s := by
  unfold located; split <;> rfl

theorem sweep_eq_writeAll (b0 ans cs res) :
    sweep b0 ans cs res = writeAll b0 (fun c => swept (ans c)) cs res := by
  induction cs generalizing res with
  | nil => rfl
  | cons c cs ih =>
    rw [writeAll_cons, ← ih, sweep]
    cases ans c <;> simp only [setRes_eq_upd, setErr_eq_upd] <;> rfl

theorem locateErrors_eq_writeAll (b0 rd cs res) :
    locateErrors b0 rd cs res = writeAll b0 (located rd) cs res := by
  induction cs generalizing res with
  | nil => rfl
  | cons c cs ih =>
    rw [writeAll_cons, ← ih, locateErrors]
    cases h : rd.locate c with
    | error e => rw [funext (located_error h), ← setRes_eq_upd]
    | ok k => rw [funext (located_ok h), upd_id]

theorem mem_dedup {k : Nat} {l : List Nat} : k ∈ dedup l ↔ k ∈ l := by
  induction l with
  | nil => simp [dedup]
  | cons x xs ih =>
    simp only [dedup, List.mem_cons, List.mem_filter, ih, bne_iff_ne, ne_eq]
    constructor
    · rintro (h | ⟨h, _⟩)
      · exact Or.inl h
      · exact Or.inr h
    · rintro (h | h)
      · exact Or.inl h
      · by_cases hk : k = x
        · exact Or.inl hk
        · exact Or.inr ⟨h, hk⟩

theorem nodup_dedup (l : List Nat) : (dedup l).Nodup := by
  induction l with
  | nil => simp [dedup]
  | cons x xs ih =>
    simp only [dedup, List.nodup_cons, List.mem_filter, bne_iff_ne, ne_eq, not_and]
    refine ⟨fun _ h => h trivial, ?_⟩
    exact (List.filter_sublist).nodup ih

theorem mem_arrange {k : Nat} {ord cls : List Nat} : k ∈ arrange ord cls ↔ k ∈ cls := by
  simp only [arrange, List.mem_append, List.mem_filter, mem_dedup, List.contains_iff_mem,
    Bool.not_eq_true']
  constructor
  · rintro (⟨_, h⟩ | ⟨h, _⟩) <;> exact h
  · intro h
    by_cases ho : k ∈ ord
    · exact Or.inl ⟨ho, h⟩
    · refine Or.inr ⟨h, ?_⟩
      simpa using ho

theorem nodup_arrange {ord cls : List Nat} (h : cls.Nodup) : (arrange ord cls).Nodup := by
  simp only [arrange, List.nodup_append]
  refine ⟨(List.filter_sublist).nodup (nodup_dedup ord), (List.filter_sublist).nodup h, ?_⟩
  intro a ha b hb hab
  subst hab
  simp only [List.mem_filter, mem_dedup] at ha hb
  have := hb.2
  simp [ha.1] at this

theorem groups_eq {rd : Round} {batch : List Nat} {g : Nat × List Nat} (h : g ∈ groups rd batch) :
    g.2 = batch.filter (fun c => clientOf rd c == g.1) := by
  obtain ⟨k, _, rfl⟩ := List.mem_map.mp h
  rfl

theorem groups_sublist {rd : Round} {batch : List Nat} {g : Nat × List Nat} (h : g ∈ groups rd batch) :
    g.2.Sublist batch := by
  rw [groups_eq h]; exact List.filter_sublist

theorem groups_keys_nodup (rd : Round) (batch : List Nat) : ((groups rd batch).map (·.1)).Nodup := by
  rw [groups, map_fst_map_pair]
  exact nodup_arrange (nodup_dedup _)

theorem mem_groups_flat {rd : Round} {batch : List Nat} {c : Nat} :
    c ∈ (groups rd batch).flatMap (·.2) ↔ c ∈ batch := by
  simp only [List.mem_flatMap]
  constructor
  · rintro ⟨g, hg, hc⟩
    exact (groups_sublist hg).subset hc
  · intro hc
    refine ⟨(clientOf rd c, batch.filter (fun d => clientOf rd d == clientOf rd c)), ?_, ?_⟩
    · simp only [groups, List.mem_map]
      refine ⟨clientOf rd c, ?_, rfl⟩
      rw [mem_arrange, mem_dedup]
      exact List.mem_map_of_mem hc
    · simp [List.mem_filter, hc]

theorem mem_group {rd : Round} {batch : List Nat} {g : Nat × List Nat} (h : g ∈ groups rd batch)
    {c : Nat} : c ∈ g.2 ↔ c ∈ batch ∧ clientOf rd c = g.1 := by
  rw [groups_eq h]; simp [List.mem_filter]

theorem locOk_iff {rd : Round} {c : Nat} : locOk rd c = true ↔ rd.locate c = .ok (clientOf rd c) := by
  unfold locOk clientOf
  cases rd.locate c <;> simp

theorem locate_of_not_locOk {rd : Round} {c : Nat} (h : locOk rd c = false) : ∃ e, rd.locate c = .error e := by
  unfold locOk at h
  cases hl : rd.locate c with
  | error e => exact ⟨e, rfl⟩
  | ok k => rw [hl] at h; cases h

theorem mem_liveCalls {rd : Round} {batch : List Nat} {c : Nat} :
    c ∈ liveCalls rd batch ↔ c ∈ batch ∧ ownGone rd c = false := by
  simp [liveCalls, List.mem_filter]

theorem not_live_of_ownGone {rd : Round} {batch : List Nat} {c : Nat} (hg : ownGone rd c = true) :
    c ∉ liveCalls rd batch := fun h => by
  rw [(mem_liveCalls.mp h).2] at hg; cases hg

theorem liveCalls_sub {rd : Round} {batch : List Nat} {c : Nat} (h : c ∈ liveCalls rd batch) : c ∈ batch :=
  (mem_liveCalls.mp h).1

theorem ownGone_iff {rd : Round} {c : Nat} : ownGone rd c = true ↔ rd.locate c = .error (.ownCtx c) := by
  unfold ownGone
  constructor
  · intro h
    split at h
    · next d hd => rw [hd, show d = c by simpa using h]
    · cases h
  · intro h; simp [h]

theorem ownGone_not_locOk {rd : Round} {c : Nat} (h : ownGone rd c = true) : locOk rd c = false := by
  simp [locOk, ownGone_iff.mp h]

theorem locOk_of_live {rd : Round} {batch : List Nat} {c : Nat}
    (hany : batch.any (fun c => !locOk rd c && !ownGone rd c) = false) (hc : c ∈ liveCalls rd batch) :
    locOk rd c = true := by
  obtain ⟨hcb, hg⟩ := mem_liveCalls.mp hc
  have := List.any_eq_false.mp hany c hcb
  simpa [hg] using this

theorem any_unlocated_false {rd : Round} {batch : List Nat}
    (hloc : ∀ c ∈ batch, locOk rd c = true ∨ rd.locate c = .error (.ownCtx c)) :
    batch.any (fun c => !locOk rd c && !ownGone rd c) = false := by
  rw [List.any_eq_false]
  intro c hc
  rcases hloc c hc with h1 | h1
  · simp [h1]
  · simp [ownGone_iff.mpr h1]

theorem liveCalls_idem (rd : Round) (batch : List Nat) :
    liveCalls rd (liveCalls rd batch) = liveCalls rd batch := by
  simp [liveCalls, List.filter_filter]

theorem any_ownGone_live (rd : Round) (batch : List Nat) : (liveCalls rd batch).any (ownGone rd) = false := by
  rw [List.any_eq_false]
  intro c hc
  simp [(mem_liveCalls.mp hc).2]

theorem liveCalls_of_located {rd : Round} {batch : List Nat} (h : ∀ c ∈ batch, locOk rd c = true) :
    liveCalls rd batch = batch := by
  refine List.filter_eq_self.mpr fun c hc => ?_
  cases hg : ownGone rd c
  · rfl
  · have := h c hc
    rw [ownGone_not_locOk hg] at this; cases this

theorem locateErrors_id {b0 : List Nat} {rd : Round} {cs : List Nat} {res : List Slot}
    (h : ∀ c ∈ cs, locOk rd c = true) : locateErrors b0 rd cs res = res := by
  induction cs generalizing res with
  | nil => rfl
  | cons c cs ih =>
    rw [locateErrors, locOk_iff.mp (h c (List.mem_cons_self ..))]
    exact ih (fun x hx => h x (List.mem_cons_of_mem _ hx))

namespace Multi
variable {region : Nat → Nat} {alive : Nat → Bool} {ord calls : List Nat}

theorem toProto_keys_nodup (region : Nat → Nat) (alive : Nat → Bool) (ord calls : List Nat) :
    ((toProto region alive ord calls).map (·.1)).Nodup := by
  rw [toProto, map_fst_map_pair]
  exact nodup_arrange (nodup_dedup _)

theorem mem_regionsOf {r : Nat} : r ∈ regionsOf region alive calls ↔ ∃ c ∈ calls, alive c = true ∧ region c = r := by
  simp only [regionsOf, mem_dedup, List.mem_map, List.mem_filter, and_assoc]

theorem mem_toProto {ra : Nat × List Nat} :
    ra ∈ toProto region alive ord calls ↔
      ra.1 ∈ regionsOf region alive calls ∧ ra.2 = actionsOf region alive calls ra.1 := by
  simp only [toProto, List.mem_map, mem_arrange]
  constructor
  · rintro ⟨r, hr, rfl⟩; exact ⟨hr, rfl⟩
  · rintro ⟨hr, h2⟩; exact ⟨ra.1, hr, Prod.ext rfl h2.symm⟩

theorem actionsOf_append (region : Nat → Nat) (alive : Nat → Bool) (xs ys : List Nat) (r : Nat) :
    actionsOf region alive (xs ++ ys) r = actionsOf region alive xs r ++ actionsOf region alive ys r :=
  List.filter_append ..

end Multi

end GV.Batch
