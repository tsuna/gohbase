import GohbaseVerif.Lemmas.Put
import GohbaseVerif.Model.CacheIO
/-!
# C08 — The location cache never holds overlapping regions; the newest wins

`Model/Cache.lean` is the model of `keyRegionCache` (the B-tree abstracted by its contract);
`Region.WF` is the property's domain: descriptors as HBase emits them.  Two remarks on `WF`:

* **Names embed the id.**  `put` treats two descriptors with the same *name* as the same region
  whatever their id or stop key, while "newer" is decided on the descriptor's *id*.  HBase region
  names are `table,start,<id>.<md5>.`, so `WF` requires the name to contain the decimal id:
  equal names then force equal table, start key and id (`Region.WF.name_inj`), and "already
  cached" and "not newer" cannot disagree (`put_strictly_newer_evicts` needs no name hypothesis).
* **Ties.**  The code evicts overlapping regions with an *equal* id (`o.ID() > reg.ID()` keeps
  the old ones only when strictly newer); the model and the theorems follow the code: "newer"
  in `put_newer_evicts_all` is `≤`.
-/
namespace GV.Cache
open GV GV.RegionName

/-- `isRegionOverlap` decides exactly "same table and the key ranges share a key". -/
theorem overlap_iff_ranges_intersect {a b : Region} (ha : a.WF) (hb : b.WF) :
    overlap a b = true ↔ a.fq = b.fq ∧ ∃ k, a.contains k ∧ b.contains k := by
  rw [overlap_iff_fq ha.tblNoColon hb.tblNoColon]
  unfold Region.contains
  constructor
  · rintro ⟨hfq, h2, h3⟩
    refine ⟨hfq, ?_⟩
    rcases bcmp_le_total a.start b.start with h | h
    · exact ⟨b.start, ⟨h, h3⟩, ⟨by simp, hb.range⟩⟩
    · refine ⟨a.start, ⟨by simp, ha.range⟩, ⟨?_, h2⟩⟩
      rw [h]; decide
  · rintro ⟨hfq, k, ⟨h1, h2⟩, ⟨h3, h4⟩⟩
    exact ⟨hfq, h4.imp_right (bcmp_lt_of_le_of_lt h1), h2.imp_right (bcmp_lt_of_le_of_lt h3)⟩

theorem GoodL.no_shared_key {l : List Region} (hg : GoodL l) {a b : Region} (ha : a ∈ l) (hb : b ∈ l)
    (hne : a ≠ b) (hfq : a.fq = b.fq) : ¬ ∃ k, a.contains k ∧ b.contains k := fun hk => by
  have := hg.overlap_eq_false ha hb hne
  rw [(overlap_iff_ranges_intersect (hg.wf a ha) (hg.wf b hb)).mpr ⟨hfq, hk⟩] at this
  cases this

/-- **The heart.** On a good cache `getOverlaps` returns exactly the cached regions that overlap
`r`, in cache order, and does not panic — whether or not `r`'s name is cached. -/
theorem getOverlaps_complete {c : Cache} (hc : Good c) {r : Region} (hr : r.WF) :
    getOverlaps c.regions r = .ok (c.regions.filter (overlap · r)) :=
  getOverlaps_filter hc hr.tableOK

/-- The same for any descriptor with a comparable table name and a start key that fits a row:
`r`'s own range may even be empty (`start ≥ stop ≠ []`).  The bound `hlen` is superfluous: a longer
start key is cut in the search key, and the cut changes nothing (`below_cutKey`). -/
theorem getOverlaps_complete_anyRange {c : Cache} (hc : Good c) {r : Region} (hr : r.TableOK)
    (hlen : r.start.length ≤ 32767 - r.fq.length - 3) :
    getOverlaps c.regions r = .ok (c.regions.filter (overlap · r)) :=
  have _ := hlen
  getOverlaps_filter hc hr

theorem put_good {c : Cache} (hc : Good c) {r : Region} (hr : r.WF) :
    ∃ c' ov rep, put c r = .ok (c', ov, rep) ∧ Good c' := by
  rcases put_spec hc hr with ⟨v, _, _, hp⟩ | ⟨_, ⟨_, hp⟩ | ⟨_, c', hp, hE⟩⟩
  · exact ⟨c, [v], false, hp, hc⟩
  · exact ⟨c, _, false, hp, hc⟩
  · exact ⟨c', _, true, hp, hE.good⟩

theorem del_good {c : Cache} (hc : Good c) (r : Region) : Good (del c r).1 :=
  GoodL.sublist hc List.filter_sublist

theorem step_good {c : Cache} (hc : Good c) {op : Op} (hop : op.region.WF) :
    ∃ c', step c op = .ok c' ∧ Good c' := by
  cases op with
  | put r =>
    obtain ⟨c', ov, rep, hp, hg'⟩ := put_good hc (r := r) hop
    exact ⟨c', by rw [step, hp]; rfl, hg'⟩
  | del r => exact ⟨_, rfl, del_good hc r⟩

theorem run_good (ops : List Op) : ∀ {c : Cache}, Good c → (∀ op ∈ ops, op.region.WF) →
    ∃ c', run ops c = .ok c' ∧ Good c' := by
  induction ops with
  | nil => intro c hc _; exact ⟨c, rfl, hc⟩
  | cons op ops ih =>
    intro c hc hwf
    obtain ⟨c', hs, hg'⟩ := step_good hc (hwf op List.mem_cons_self)
    obtain ⟨c'', hr, hg''⟩ := ih hg' (fun o ho => hwf o (List.mem_cons_of_mem _ ho))
    exact ⟨c'', by rw [run, hs]; exact hr, hg''⟩

/-- After any sequence of discoveries and removals of well-formed regions the cache is good —
and no operation ever panicked. -/
theorem reachable_good (ops : List Op) (h : ∀ op ∈ ops, op.region.WF) :
    ∃ c, run ops Cache.empty = .ok c ∧ Good c :=
  run_good ops ⟨.nil, nofun, .nil⟩ h

/-- … hence no two cached regions of the same table have intersecting key ranges. -/
theorem no_two_cached_intersect (ops : List Op) (h : ∀ op ∈ ops, op.region.WF) :
    ∃ c, run ops Cache.empty = .ok c ∧
      ∀ a ∈ c.regions, ∀ b ∈ c.regions, a ≠ b → a.fq = b.fq →
        ¬ ∃ k, a.contains k ∧ b.contains k := by
  obtain ⟨c, hr, hg⟩ := reachable_good ops h
  exact ⟨c, hr, fun a ha b hb => hg.no_shared_key ha hb⟩

/-- Discovering a region that is not cached by name and at least as new as everything it overlaps:
all of those are evicted and marked dead, the new region is cached, nothing else moves. -/
theorem put_newer_evicts_all {c : Cache} (hc : Good c) {r : Region} (hr : r.WF)
    (hname : ∀ x ∈ c.regions, x.name ≠ r.name)
    (hnew : ∀ x ∈ c.regions, overlap x r = true → x.id ≤ r.id) :
    ∃ c', put c r = .ok (c', c.regions.filter (overlap · r), true) ∧ Good c' ∧ r ∈ c'.regions ∧
      (∀ x ∈ c.regions, overlap x r = true → x ∉ c'.regions ∧ x ∈ c'.dead) ∧
      (∀ x ∈ c.regions, overlap x r = false → x ∈ c'.regions) ∧
      (∀ x ∈ c'.regions, x = r ∨ x ∈ c.regions) := by
  rcases put_spec hc hr with ⟨v, hv, hn, _⟩ | ⟨_, ⟨⟨o, ho, hov, hlt⟩, _⟩ | ⟨_, c', hp, hE⟩⟩
  · exact absurd hn (hname v hv)
  · exact absurd (hnew o ho hov) (by omega)
  · exact ⟨c', hp, hE.good, (hE.mem r).mpr (.inl rfl),
      fun x hx hov => ⟨hE.gone x hx hov, (hE.dead x).mpr (.inr ⟨hx, hov⟩)⟩,
      fun x hx hno => (hE.mem x).mpr (.inr ⟨hx, hno⟩),
      fun x hx => ((hE.mem x).mp hx).imp_right And.left⟩

theorem same_name_overlaps {x r : Region} (hx : x.WF) (hr : r.WF) (h : x.name = r.name) :
    overlap x r = true ∧ x.id = r.id := by
  obtain ⟨e1, e2, e3⟩ := hx.name_inj hr h
  refine ⟨?_, e3⟩
  rw [overlap_iff_fq hx.tblNoColon hr.tblNoColon]
  refine ⟨e1, ?_, ?_⟩
  · rw [e2]; exact hr.range
  · rw [← e2]; exact hx.range

/-- Strictly newer than everything it overlaps: no hypothesis about names is needed. -/
theorem put_strictly_newer_evicts {c : Cache} (hc : Good c) {r : Region} (hr : r.WF)
    (hnew : ∀ x ∈ c.regions, overlap x r = true → x.id < r.id) :
    ∃ c', put c r = .ok (c', c.regions.filter (overlap · r), true) ∧ Good c' ∧ r ∈ c'.regions ∧
      (∀ x ∈ c.regions, overlap x r = true → x ∉ c'.regions ∧ x ∈ c'.dead) ∧
      (∀ x ∈ c.regions, overlap x r = false → x ∈ c'.regions) ∧
      (∀ x ∈ c'.regions, x = r ∨ x ∈ c.regions) := by
  apply put_newer_evicts_all hc hr
  · intro x hx e
    obtain ⟨hov, hid⟩ := same_name_overlaps (hc.wf x hx) hr e
    have := hnew x hx hov
    omega
  · intro x hx hov
    exact Nat.le_of_lt (hnew x hx hov)

/-- Discovering a region that is already cached (by name), or that overlaps a newer cached
region: cache and dead marks unchanged, `replaced = false`. -/
theorem put_known_or_older_noop {c : Cache} (hc : Good c) {r : Region} (hr : r.WF)
    (h : (∃ x ∈ c.regions, x.name = r.name) ∨ (∃ x ∈ c.regions, overlap x r = true ∧ r.id < x.id)) :
    ∃ ov, put c r = .ok (c, ov, false) := by
  rcases put_spec hc hr with ⟨v, _, _, hp⟩ | ⟨hnames, ⟨_, hp⟩ | ⟨hle, _⟩⟩
  · exact ⟨[v], hp⟩
  · exact ⟨_, hp⟩
  · rcases h with ⟨x, hx, e⟩ | ⟨x, hx, hov, hid⟩
    · exact absurd e (hnames x hx)
    · exact absurd (hle x hx hov) (by omega)

/-- `put` marks dead only what it evicts (and never un-marks). -/
theorem others_not_marked {c c' : Cache} (hc : Good c) {r : Region} (hr : r.WF)
    {ov : List Region} {rep : Bool} (hp : put c r = .ok (c', ov, rep)) :
    (∀ x ∈ c.dead, x ∈ c'.dead) ∧
    (∀ x ∈ c'.dead, x ∈ c.dead ∨ (rep = true ∧ x ∈ c.regions ∧ overlap x r = true ∧ x ∉ c'.regions)) := by
  rcases put_spec hc hr with ⟨v, _, _, hp'⟩ | ⟨_, ⟨_, hp'⟩ | ⟨_, c'', hp', hE⟩⟩
  · rw [hp] at hp'; cases hp'; exact ⟨fun _ h => h, fun _ h => .inl h⟩
  · rw [hp] at hp'; cases hp'; exact ⟨fun _ h => h, fun _ h => .inl h⟩
  · rw [hp] at hp'; cases hp'
    exact ⟨fun x h => (hE.dead x).mpr (.inl h),
      fun x hx => ((hE.dead x).mp hx).imp_right fun ⟨h1, h2⟩ => ⟨rfl, h1, h2, hE.gone x h1 h2⟩⟩

/-! ### Why well-formedness of the *cached* regions is a hypothesis

A cached descriptor with `start ≥ stop ≠ []` (no key range; HBase never emits one) overlaps
nothing, so it may sit next to a real region — and then hides it from `getOverlaps`.
The three descriptors are named `t,a,<id>.x`. -/

def wA : Region := ⟨[], [0x74], [0x61], [], [0x74, 0x2c, 0x61, 0x2c, 0x31, 0x2e, 0x78], 1⟩
def wBad : Region := ⟨[], [0x74], [0x61], [0x61], [0x74, 0x2c, 0x61, 0x2c, 0x32, 0x2e, 0x78], 2⟩
def wNew : Region := ⟨[], [0x74], [0x61], [0x62], [0x74, 0x2c, 0x61, 0x2c, 0x33, 0x2e, 0x78], 3⟩

/-- The cache `[t[a,∞)#1, t[a,a)#2]` is sorted and pairwise non-overlapping, `t[a,b)#3`
overlaps its first entry, yet `getOverlaps` finds nothing … -/
theorem illformed_needed :
    Sorted [wA, wBad] ∧ [wA, wBad].Pairwise (fun a b => overlap a b = false) ∧
    overlap wA wNew = true ∧ getOverlaps [wA, wBad] wNew = .ok [] :=
  ⟨List.pairwise_pair.mpr (by unfold nameLt; decide), List.pairwise_pair.mpr (by decide),
    by decide, by decide⟩

/-- … so three `put`s leave two overlapping, individually well-formed regions in the cache. -/
theorem illformed_breaks_invariant :
    ∃ c, run [.put wA, .put wBad, .put wNew] Cache.empty = .ok c ∧
      wA ∈ c.regions ∧ wNew ∈ c.regions ∧ overlap wA wNew = true :=
  ⟨⟨[wA, wBad, wNew], []⟩, by decide +kernel, by simp, by simp, by decide⟩

/-- The driver's executable domain test is `WF`. -/
theorem wfB_iff_WF (r : Region) : r.wfB = true ↔ r.WF := by
  unfold Region.wfB
  simp only [Bool.and_eq_true, Bool.not_eq_true', List.contains_eq_mem, decide_eq_false_iff_not,
    Bool.or_eq_true, List.isEmpty_iff, beq_iff_eq, decide_eq_true_eq, List.isPrefixOf_iff_prefix,
    and_assoc]
  constructor
  · rintro ⟨hpre, hrest, hfq, htbl, hrange, hlen⟩
    refine ⟨⟨r.name.drop (mkName r.fq r.start (dec r.id ++ [dot])).length, ?_, hrest⟩, hfq, htbl,
      hrange, hlen⟩
    have := List.prefix_iff_eq_append.mp hpre
    rw [mkName_append] at this
    simpa using this.symm
  · intro h
    obtain ⟨rest, hn, hc⟩ := h.nameShape
    have hpre : r.name = mkName r.fq r.start (dec r.id ++ [dot]) ++ rest := by
      rw [mkName_append]; simpa using hn
    refine ⟨?_, ?_, h.fqNoComma, h.tblNoColon, h.range, h.nameLen⟩
    · rw [hpre]; exact List.prefix_append _ _
    · rw [hpre, List.drop_left]; exact hc

theorem Region.contains.of_le {r : Region} {k k' : Bytes} (h : r.contains k')
    (h1 : bcmp r.start k ≠ .gt) (h2 : bcmp k k' ≠ .gt) : r.contains k :=
  ⟨h1, h.2.imp_right (bcmp_lt_of_le_of_lt h2)⟩

theorem containsB_iff (r : Region) (k : Bytes) : r.containsB k = true ↔ r.contains k := by
  simp [Region.containsB, Region.contains]

/-- The driver's spec oracle (`CacheIO.intersects`, used to re-judge the implementation's cache
dumps) is exactly "same table and the two key ranges share a key". -/
theorem intersects_iff (a b : Region) :
    CacheIO.intersects a b = true ↔ a.fq = b.fq ∧ ∃ k, a.contains k ∧ b.contains k := by
  unfold CacheIO.intersects
  simp only [Bool.and_eq_true, beq_iff_eq, containsB_iff]
  constructor
  · rintro ⟨h1, h2, h3⟩
    exact ⟨h1, _, h2, h3⟩
  · rintro ⟨h1, k, ha, hb⟩
    refine ⟨h1, ?_⟩
    -- `intersects` tests the larger of the two start keys: it is `≤ k`, hence in both ranges
    by_cases hgt : bcmp a.start b.start = .gt
    · simp only [hgt, if_true]
      exact ⟨ha.of_le (by simp) ha.1, hb.of_le (by rw [(bcmp_gt_iff_lt _ _).mp hgt]; decide) ha.1⟩
    · simp only [hgt, if_false]
      exact ⟨ha.of_le hgt hb.1, hb.of_le (by simp) hb.1⟩

/-- … hence, on well-formed descriptors, it agrees with `isRegionOverlap`. -/
theorem intersects_eq_overlap {a b : Region} (ha : a.WF) (hb : b.WF) :
    CacheIO.intersects a b = overlap a b := by
  rw [Bool.eq_iff_iff, intersects_iff]
  exact (overlap_iff_ranges_intersect ha hb).symm

def exA : Region := ⟨[], [0x74], [], [0x62], mkName [0x74] [] (dec 1 ++ dot :: [0x78]), 1⟩
def exB : Region := ⟨[0x6e], [0x74], [0x61], [], mkName [0x6e, 0x3a, 0x74] [0x61] (dec 12 ++ dot :: [0x78]), 12⟩

theorem exA_wf : exA.WF := (wfB_iff_WF _).mp (by decide +kernel)

theorem exB_wf : exB.WF := (wfB_iff_WF _).mp (by decide +kernel)

example : ∃ c, run [.put exA, .put exB, .del exA] Cache.empty = .ok c ∧ Good c :=
  reachable_good _ (List.forall_mem_cons.mpr ⟨exA_wf, List.forall_mem_cons.mpr ⟨exB_wf,
    List.forall_mem_cons.mpr ⟨exA_wf, nofun⟩⟩⟩)

end GV.Cache
