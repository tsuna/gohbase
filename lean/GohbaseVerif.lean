import GohbaseVerif.Basic
import GohbaseVerif.Lemmas.ListFacts
import GohbaseVerif.Model.RegionName
import GohbaseVerif.Lemmas.Bcmp
import GohbaseVerif.Lemmas.RegionName
import GohbaseVerif.Props.C16
import GohbaseVerif.Drive.C16
import GohbaseVerif.Model.Retry
import GohbaseVerif.Lemmas.Backoff
import GohbaseVerif.Lemmas.Retry
import GohbaseVerif.Props.C17
import GohbaseVerif.Drive.C17
import GohbaseVerif.Model.Cell
import GohbaseVerif.Lemmas.Outcome
import GohbaseVerif.Lemmas.Cell
import GohbaseVerif.Props.C10
import GohbaseVerif.Drive.C10
import GohbaseVerif.Model.Conn
import GohbaseVerif.Drive.Conn
import GohbaseVerif.Model.Batch
import GohbaseVerif.Lemmas.Batch
import GohbaseVerif.Lemmas.BatchWait
import GohbaseVerif.Lemmas.BatchRun
import GohbaseVerif.Lemmas.BatchEvents
import GohbaseVerif.Lemmas.BatchSend
import GohbaseVerif.Props.C07
import GohbaseVerif.Props.C12
import GohbaseVerif.Drive.C07
import GohbaseVerif.Drive.Sim
import GohbaseVerif.Drive.ConnCache
import GohbaseVerif.Lemmas.Conn
import GohbaseVerif.Lemmas.ConnOwn
import GohbaseVerif.Lemmas.ConnFlight
import GohbaseVerif.Lemmas.ConnAfter
import GohbaseVerif.Props.C03
import GohbaseVerif.Props.C18
import GohbaseVerif.Props.C02
import GohbaseVerif.Model.Cache
import GohbaseVerif.Model.CacheIO
import GohbaseVerif.Model.Routing
import GohbaseVerif.Lemmas.WFName
import GohbaseVerif.Lemmas.Cache
import GohbaseVerif.Lemmas.Overlaps
import GohbaseVerif.Lemmas.Put
import GohbaseVerif.Lemmas.Routing
import GohbaseVerif.Props.C08
import GohbaseVerif.Props.C01
import GohbaseVerif.Drive.C08
import GohbaseVerif.Drive.C01
import GohbaseVerif.Model.Compress
import GohbaseVerif.Model.Snappy
import GohbaseVerif.Lemmas.BigEndian
import GohbaseVerif.Lemmas.Compress
import GohbaseVerif.Props.C15
import GohbaseVerif.Props.C11Compress
import GohbaseVerif.Drive.C15
import GohbaseVerif.Model.Classify
import GohbaseVerif.Lemmas.Classify
import GohbaseVerif.Model.ClientSeq
import GohbaseVerif.Lemmas.ClientSeq
import GohbaseVerif.Props.C04
import GohbaseVerif.Model.Avail
import GohbaseVerif.Lemmas.Avail
import GohbaseVerif.Props.C09
import GohbaseVerif.Props.C13
import GohbaseVerif.Model.ConnCache
import GohbaseVerif.Lemmas.ConnCache
import GohbaseVerif.Props.C19
import GohbaseVerif.Props.C20
import GohbaseVerif.Model.Frame
import GohbaseVerif.Model.ToProto
import GohbaseVerif.Lemmas.Frame
import GohbaseVerif.Lemmas.ToProto
import GohbaseVerif.Props.C05
import GohbaseVerif.Drive.C05
import GohbaseVerif.Model.Receive
import GohbaseVerif.Lemmas.Receive
import GohbaseVerif.Props.C11
import GohbaseVerif.Drive.C11
import GohbaseVerif.Model.Scanner
import GohbaseVerif.Lemmas.Scanner
import GohbaseVerif.Lemmas.ScannerStream
import GohbaseVerif.Lemmas.ScannerRows
import GohbaseVerif.Lemmas.ScannerOrder
import GohbaseVerif.Lemmas.ScannerGeom
import GohbaseVerif.Lemmas.ScannerWalk
import GohbaseVerif.Props.C06
import GohbaseVerif.Props.C14
import GohbaseVerif.Drive.C06
import GohbaseVerif.Props.C11Names
