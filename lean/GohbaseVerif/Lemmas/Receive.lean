import GohbaseVerif.Model.Receive
import GohbaseVerif.Lemmas.Cell
import GohbaseVerif.Lemmas.ListFacts
/-! `Model/Receive.lean` for C11. Every decoding loop gets one `Safe` statement (`…_safe`): it does not
fault, and what it returns on success (offsets inside the buffer, validated indices, untouched
exceptions). `returnResults` is handled by a counting invariant (`RInv`) that its loops keep, up to the
final sweep, which is described by what it appends (`sweepWith_eq`); `receive` by a walk down
`receiveDecide` that names each of its exits (`Exit`). -/
namespace GV.Receive
open GV GV.Cell GV.Outcome

theorem getDeserialize_safe (r : GetResp) (b : Bytes) :
    (getDeserialize r b).Safe (fun p => p.2 ≤ b.length) := by
  unfold getDeserialize
  split
  · exact Nat.zero_le _
  · exact (deserializeCellBlocks_safe b _).elim (fun (cells, read) h => h) (fun e => trivial)

/-- `partials[i]` stays in range as long as there are at least as many flags as counts. -/
theorem scanLoop_safe (b : Bytes) (partials : List Bool) (i : Nat) (cpr : List Nat) (readLen : Nat)
    (hr : readLen ≤ b.length) (hi : i + cpr.length ≤ partials.length) :
    (scanLoop b partials i cpr readLen).Safe (fun p => p.2 ≤ b.length) := by
  induction cpr generalizing i readLen with
  | nil => exact hr
  | cons n rest ih =>
    unfold scanLoop
    rw [if_neg (Nat.not_lt.mpr hr)]
    refine (deserializeCellBlocks_safe (b.drop readLen) n).elim (fun (cells, l) hl => ?_) (fun e => trivial)
    simp only [List.length_cons] at hi
    dsimp only
    rw [List.getElem?_eq_getElem (by omega)]
    exact (ih (i + 1) _ (offset_add_le hr hl) (by omega)).elim (fun (rs, r) h => h) (fun e => trivial)

theorem scanDeserialize_safe (r : ScanResp) (b : Bytes) :
    (scanDeserialize r b).Safe (fun p => p.2 ≤ b.length) := by
  unfold scanDeserialize
  refine Safe.ite_err fun hlen => ?_
  exact (scanLoop_safe b r.partialFlags 0 r.cellsPerResult 0 (Nat.zero_le _)
    (by simp only [ne_eq, Decidable.not_not] at hlen; omega)).elim (fun (rs, n) h => h) (fun e => trivial)

/-! ### multi responses: what `DeserializeCellBlocks` checks and keeps -/

/-- The call at position `j` of `m.calls` is live (not dropped). -/
def liveAt (calls : List (Option MCall)) (j : Nat) : Bool :=
  match calls[j]? with
  | some (some _) => true
  | _ => false

/-- What `multi.DeserializeCellBlocks` has checked about one action result. -/
def ValidRoe (m : Multi) (roe : ResultOrException) : Prop :=
  roe.index.getD 0 ≠ 0 ∧ liveAt m.calls (roe.index.getD 0 - 1) = true

def ValidRar (m : Multi) (rar : RegionActionResult) : Prop :=
  (rar.exception.isSome = true → rar.roes = []) ∧
  (rar.exception = none → ∀ roe ∈ rar.roes, ValidRoe m roe)

/-- `Validated m mr`: the indices of `mr` are usable by `returnResults`. -/
def Validated (m : Multi) (mr : MultiResp) : Prop := ∀ rar ∈ mr.rars, ValidRar m rar

/-- The protobuf library's guarantee for `required` fields (`NameBytesPair.name`). -/
def ReqNBP (e : Option NameBytesPair) : Prop := ∀ x, e = some x → x.name.isSome = true
def ReqRoes (roes : List ResultOrException) : Prop := ∀ roe ∈ roes, ReqNBP roe.exception
def ReqRar (rar : RegionActionResult) : Prop := ReqNBP rar.exception ∧ ReqRoes rar.roes
def ReqMulti (mr : MultiResp) : Prop := ∀ rar ∈ mr.rars, ReqRar rar

theorem liveAt_iff {calls : List (Option MCall)} {j : Nat} :
    liveAt calls j = true ↔ ∃ c, calls[j]? = some (some c) := by
  unfold liveAt
  cases calls[j]? with
  | none => simp
  | some c => cases c <;> simp

theorem mget_ok_iff {m : Multi} {i : Nat} {c : Option MCall} :
    mget m i = .ok c ↔ i ≠ 0 ∧ m.calls[i - 1]? = some c := by
  unfold mget
  by_cases h0 : i = 0
  · simp [h0]
  · cases m.calls[i - 1]? <;> simp [h0]

/-- The exceptions a region result carries: its own and those of its actions. `DeserializeCellBlocks`
fills in cells and leaves these where they are; `serverErrorIn` and the `required` guarantee
(`ReqMulti`) look at nothing else. -/
def excsOf (rar : RegionActionResult) : Option NameBytesPair × List (Option NameBytesPair) :=
  (rar.exception, rar.roes.map (·.exception))

theorem reqMulti_iff (mr : MultiResp) :
    ReqMulti mr ↔ ∀ s ∈ mr.rars.map excsOf, ReqNBP s.1 ∧ ∀ e ∈ s.2, ReqNBP e := by
  simp [ReqMulti, ReqRar, ReqRoes, excsOf]

theorem serverErrorIn_eq (mr : MultiResp) :
    serverErrorIn mr = (mr.rars.map excsOf).any (fun s => excIsServer s.1 || s.2.any excIsServer) := by
  simp [serverErrorIn, excsOf, List.any_map, Function.comp_def]

theorem reqMulti_congr {mr mr' : MultiResp} (h : mr'.rars.map excsOf = mr.rars.map excsOf)
    (hq : ReqMulti mr) : ReqMulti mr' := by
  rw [reqMulti_iff, h, ← reqMulti_iff]
  exact hq

theorem serverErrorIn_congr {mr mr' : MultiResp} (h : mr'.rars.map excsOf = mr.rars.map excsOf) :
    serverErrorIn mr' = serverErrorIn mr := by
  rw [serverErrorIn_eq, h, ← serverErrorIn_eq]

theorem desRoes_safe (m : Multi) (b : Bytes) (roes : List ResultOrException) (st : DState)
    (hn : st.nread ≤ b.length) :
    (desRoes m b roes st).Safe (fun p => p.2.nread ≤ b.length ∧ (∀ roe ∈ p.1, ValidRoe m roe) ∧
      p.1.map (·.exception) = roes.map (·.exception)) := by
  induction roes generalizing st with
  | nil => exact ⟨hn, List.forall_mem_nil _, rfl⟩
  | cons roe rest ih =>
    unfold desRoes
    dsimp only
    refine Safe.ite_err fun h0 => Safe.ite_err fun _ => Safe.ite_err fun _ => Safe.ite_err fun hle => ?_
    split
    · rename_i hnone
      rw [List.getElem?_eq_none_iff] at hnone
      omega
    · trivial
    · rename_i c hc
      have hlive : liveAt m.calls (roe.index.getD 0 - 1) = true := liveAt_iff.mpr ⟨c, hc⟩
      refine Safe.ite_err fun _ => ?_
      -- both arms end alike: `roe'` (`roe`, with cells filled in or not) in front of the results for `rest`
      have prepend : ∀ (roe' : ResultOrException) (st1 : DState), roe'.index = roe.index →
          roe'.exception = roe.exception → st1.nread ≤ b.length →
          (match desRoes m b rest st1 with
            | .ok (rs, st2) => Outcome.ok (roe' :: rs, st2)
            | .err e => .err e
            | .fault w => .fault w).Safe (fun p => p.2.nread ≤ b.length ∧
              (∀ r ∈ p.1, ValidRoe m r) ∧
              p.1.map ResultOrException.exception = (roe :: rest).map ResultOrException.exception) := by
        intro roe' st1 hi he hn1
        refine (ih st1 hn1).elim (fun (rs, st2) ⟨h1, h2, h3⟩ => ⟨h1, ?_, ?_⟩) (fun e => trivial)
        · exact List.forall_mem_cons.mpr ⟨by unfold ValidRoe; rw [hi]; exact ⟨h0, hlive⟩, h2⟩
        · simp only [List.map_cons, he, h3]
      split
      · exact prepend roe _ rfl rfl hn
      · rw [mget_ok_iff.mpr ⟨h0, hc⟩]
        dsimp only
        rw [if_neg (Nat.not_lt.mpr hn)]
        refine (getDeserialize_safe ⟨roe.result⟩ (b.drop st.nread)).elim (fun (r', n) hr => ?_) (fun e => trivial)
        exact prepend _ _ rfl rfl (offset_add_le hn hr)

theorem desRars_safe (m : Multi) (b : Bytes) (rars : List RegionActionResult) (st : DState)
    (hn : st.nread ≤ b.length) :
    (desRars m b rars st).Safe (fun p => p.2.nread ≤ b.length ∧ (∀ rar ∈ p.1, ValidRar m rar) ∧
      p.1.map excsOf = rars.map excsOf) := by
  induction rars generalizing st with
  | nil => exact ⟨hn, List.forall_mem_nil _, rfl⟩
  | cons rar rest ih =>
    have prepend : ∀ (rar' : RegionActionResult) (st1 : DState), ValidRar m rar' → excsOf rar' = excsOf rar →
        st1.nread ≤ b.length →
        (match desRars m b rest st1 with
          | .ok (rs, st2) => Outcome.ok (rar' :: rs, st2)
          | .err e => .err e
          | .fault w => .fault w).Safe (fun p => p.2.nread ≤ b.length ∧
            (∀ r ∈ p.1, ValidRar m r) ∧ p.1.map excsOf = (rar :: rest).map excsOf) := by
      intro rar' st1 hv he hn1
      refine (ih st1 hn1).elim (fun (rs, st2) ⟨h1, h2, h3⟩ => ⟨h1, ?_, ?_⟩) (fun e => trivial)
      · exact List.forall_mem_cons.mpr ⟨hv, h2⟩
      · simp only [List.map_cons, he, h3]
    unfold desRars
    split
    · rename_i e he
      refine Safe.ite_err fun hlen => ?_
      refine prepend rar st ⟨fun _ => List.eq_nil_of_length_eq_zero (Decidable.not_not.mp hlen), ?_⟩ rfl hn
      intro h; rw [he] at h; cases h
    · rename_i he
      refine (desRoes_safe m b rar.roes st hn).elim (fun (roes, st1) ⟨hn1, hv1, hq1⟩ => ?_) (fun e => trivial)
      refine prepend _ st1 ⟨fun h => ?_, fun _ => hv1⟩ ?_ hn1
      · rw [he] at h; cases h
      · simp only [excsOf, hq1]

theorem multiDeserialize_safe (m : Multi) (mr : MultiResp) (b : Bytes) :
    (multiDeserialize m mr b).Safe (fun p =>
      p.2 ≤ b.length ∧ Validated m p.1 ∧ p.1.rars.map excsOf = mr.rars.map excsOf) := by
  unfold multiDeserialize
  exact (desRars_safe m b mr.rars ⟨[], 0⟩ (Nat.zero_le _)).elim (fun (rars, st) h => h) (fun e => trivial)

/-! ### `returnResults`: the counting invariant -/

/-- The positions sent to so far, oldest first. -/
def outIdx (st : RState) : List Nat := st.out.map (·.1)

/-- The invariant of `returnResults`: a position has been sent to exactly once if it is marked
answered and never otherwise, and only live calls are marked. -/
structure RInv (calls : List (Option MCall)) (st : RState) : Prop where
  count : ∀ j, (outIdx st).count j = if j ∈ st.answered then 1 else 0
  live : ∀ j ∈ st.answered, liveAt calls j = true

theorem RInv.init (calls : List (Option MCall)) : RInv calls ⟨[], []⟩ :=
  ⟨fun _ => rfl, fun _ h => nomatch h⟩

theorem send_ok {st : RState} {j : Nat} {d : Delivery} (h : (outIdx st).count j = 0) :
    send st j d = .ok { st with out := st.out ++ [(j, d)] } := by
  unfold send
  rw [if_neg (by simpa [outIdx, List.count_eq_zero] using h)]

theorem count_outIdx_snoc (st : RState) (j k : Nat) (d : Delivery) :
    (outIdx { st with out := st.out ++ [(j, d)] }).count k
      = (outIdx st).count k + if k = j then 1 else 0 := by
  simp [outIdx, List.count_append, List.count_singleton, eq_comm (a := j)]

theorem not_contains {l : List Nat} {j : Nat} (h : ¬ (l.contains j = true)) : j ∉ l := by
  simpa using h

/-- What `failRegion` and `returnRoes` do to a live, unanswered call: mark it and send to it. -/
theorem mark_send {calls : List (Option MCall)} {st : RState} {j : Nat} (d : Delivery)
    (hI : RInv calls st) (hj : j ∉ st.answered) (hl : liveAt calls j = true) :
    ∃ st', send { st with answered := j :: st.answered } j d = .ok st' ∧ RInv calls st' := by
  have e : outIdx { st with answered := j :: st.answered } = outIdx st := rfl
  refine ⟨_, send_ok (by rw [e, hI.count j, if_neg hj]), ⟨fun k => ?_, fun k hk => ?_⟩⟩
  · rw [count_outIdx_snoc, e, hI.count k]
    by_cases hkj : k = j
    · subst hkj; simp [hj]
    · simp [hkj]
  · rcases List.mem_cons.mp hk with rfl | hk
    · exact hl
    · exact hI.live k hk

theorem indexed_eq_zipIdx {α} (n : Nat) (l : List α) : indexed n l = (l.zipIdx n).map Prod.swap := by
  induction l generalizing n with
  | nil => rfl
  | cons a as ih => simp [indexed, ih]

theorem mem_indexed {α} {l : List α} {j : Nat} {a : α} : (j, a) ∈ indexed 0 l ↔ l[j]? = some a := by
  rw [indexed_eq_zipIdx, List.mem_map]
  constructor
  · rintro ⟨⟨a', j'⟩, h, e⟩
    cases e
    exact List.mem_zipIdx_iff_getElem?.mp h
  · exact fun h => ⟨(a, j), List.mem_zipIdx_iff_getElem?.mpr h, rfl⟩

theorem indexed_fst_nodup {α} (n : Nat) (l : List α) : ((indexed n l).map (·.1)).Nodup := by
  rw [indexed_eq_zipIdx, List.map_map, show (fun p : Nat × α => p.1) ∘ Prod.swap = Prod.snd from rfl,
    List.zipIdx_map_snd]
  exact List.nodup_range'

theorem failRegion_spec (calls : List (Option MCall)) (reg : Nat) (d : Delivery)
    (l : List (Nat × Option MCall)) (hl : ∀ j c, (j, some c) ∈ l → liveAt calls j = true)
    (st : RState) (hI : RInv calls st) :
    ∃ st', failRegion reg d l st = .ok st' ∧ RInv calls st' := by
  induction l generalizing st with
  | nil => exact ⟨st, rfl, hI⟩
  | cons p rest ih =>
    obtain ⟨j, c⟩ := p
    have hl' : ∀ j c, (j, some c) ∈ rest → liveAt calls j = true :=
      fun j c h => hl j c (List.mem_cons_of_mem _ h)
    cases c with
    | none => exact ih hl' st hI
    | some c =>
      simp only [failRegion]
      split
      · exact ih hl' st hI
      · rename_i hans
        split
        · obtain ⟨st1, h1, hI1⟩ := mark_send d hI (not_contains hans) (hl j c (List.mem_cons_self ..))
          rw [h1]
          exact ih hl' st1 hI1
        · exact ih hl' st hI

theorem failRegion_calls (calls : List (Option MCall)) (reg : Nat) (d : Delivery) (st : RState)
    (hI : RInv calls st) : ∃ st', failRegion reg d (indexed 0 calls) st = .ok st' ∧ RInv calls st' :=
  failRegion_spec calls reg d _ (fun _ c h => liveAt_iff.mpr ⟨c, mem_indexed.mp h⟩) st hI

theorem returnRoes_inv (m : Multi) (roes : List ResultOrException) (st st' : RState)
    (hI : RInv m.calls st) (h : returnRoes m roes st = .ok st') : RInv m.calls st' := by
  induction roes generalizing st with
  | nil => cases h; exact hI
  | cons roe rest ih =>
    unfold returnRoes at h
    dsimp only at h
    split at h
    · cases h
    · cases h
    · rename_i c hget
      split at h
      · exact ih st hI h
      · rename_i hans
        -- both arms that send: to a live call (`mget` found it), marked just now
        have sendThen : ∀ (d : Delivery) (cc : MCall), c = some cc →
            (send { st with answered := (roe.index.getD 0 - 1) :: st.answered } (roe.index.getD 0 - 1) d).bind
              (fun st' => returnRoes m rest st') = .ok st' → RInv m.calls st' := by
          intro d cc hcc hb
          obtain ⟨s1, h1, hI1⟩ := mark_send d hI (not_contains hans)
            (liveAt_iff.mpr ⟨cc, hcc ▸ (mget_ok_iff.mp hget).2⟩)
          rw [h1] at hb
          exact ih s1 hI1 hb
        split at h
        · split at h
          · cases h
          · cases h
          · exact sendThen _ _ rfl h
        · split at h
          · cases h
          · exact sendThen _ _ rfl h

theorem returnRoes_no_fault (m : Multi) (roes : List ResultOrException) (st : RState)
    (hI : RInv m.calls st) (hv : ∀ roe ∈ roes, ValidRoe m roe) (hq : ReqRoes roes) :
    (returnRoes m roes st).isFault = false := by
  induction roes generalizing st with
  | nil => rfl
  | cons roe rest ih =>
    obtain ⟨⟨h0, hl⟩, hv'⟩ := List.forall_mem_cons.mp hv
    obtain ⟨hq0, hq'⟩ := List.forall_mem_cons.mp hq
    obtain ⟨c, hc⟩ := liveAt_iff.mp hl
    have hget := mget_ok_iff.mpr ⟨h0, hc⟩
    unfold returnRoes
    dsimp only
    rw [hget]
    dsimp only
    split
    · exact ih st hI hv' hq'
    · rename_i hans
      have sendThen : ∀ d : Delivery,
          ((send { st with answered := (roe.index.getD 0 - 1) :: st.answered } (roe.index.getD 0 - 1) d).bind
            (fun st' => returnRoes m rest st')).isFault = false := by
        intro d
        obtain ⟨s1, h1, hI1⟩ := mark_send d hI (not_contains hans) hl
        rw [h1]
        exact ih s1 hI1 hv' hq'
      split
      · rename_i e he
        have hname := hq0 e he
        cases hn : e.name with
        | none => rw [hn] at hname; cases hname
        | some n => exact sendThen _
      · exact sendThen _

theorem returnRars_inv (m : Multi) (rars : List RegionActionResult) (i : Nat) (st st' : RState)
    (hI : RInv m.calls st) (h : returnRars m i rars st = .ok st') : RInv m.calls st' := by
  induction rars generalizing i st with
  | nil => cases h; exact hI
  | cons rar rest ih =>
    unfold returnRars at h
    split at h
    · rename_i e he
      split at h
      · exact ih _ st hI h
      · split at h
        · cases h
        · rename_i reg hreg
          split at h
          · cases h
          · rename_i n hn
            obtain ⟨s1, h1, hI1⟩ := failRegion_calls m.calls reg
              (errD (exceptionToError n (e.value.getD []))) st hI
            rw [h1] at h
            exact ih _ s1 hI1 h
    · obtain ⟨s1, hs1, hrec⟩ := bind_eq_ok h
      exact ih _ s1 (returnRoes_inv m rar.roes st s1 hI hs1) hrec

theorem returnRars_no_fault (m : Multi) (rars : List RegionActionResult) (i : Nat) (st : RState)
    (hI : RInv m.calls st) (hv : ∀ rar ∈ rars, ValidRar m rar)
    (hq : ∀ rar ∈ rars, ReqRar rar) : (returnRars m i rars st).isFault = false := by
  induction rars generalizing i st with
  | nil => rfl
  | cons rar rest ih =>
    obtain ⟨hv0, hv'⟩ := List.forall_mem_cons.mp hv
    obtain ⟨hq0, hq'⟩ := List.forall_mem_cons.mp hq
    unfold returnRars
    split
    · rename_i e he
      split
      · exact ih _ st hI hv' hq'
      · rename_i hi
        split
        · rename_i hnone
          rw [List.getElem?_eq_none_iff] at hnone
          omega
        · rename_i reg _
          have hname := hq0.1 e he
          split
          · rename_i hn; rw [hn] at hname; cases hname
          · rename_i n hn
            obtain ⟨s1, h1, hI1⟩ := failRegion_calls m.calls reg
              (errD (exceptionToError n (e.value.getD []))) st hI
            rw [h1]
            exact ih _ s1 hI1 hv' hq'
    · rename_i he
      refine isFault_bind (returnRoes_no_fault m rar.roes st hI (hv0.2 he) hq0.2) fun s1 hs1 => ?_
      exact ih _ s1 (returnRoes_inv m rar.roes st s1 hI hs1) hv' hq'

/-! ### `returnResults`: the final sweep -/

/-- `sweep` and `failAll` are one loop: send `d` to every live call that is not marked answered
(`failAll` marks nothing, and starts with nothing marked). -/
def sweepWith (d : Delivery) : List (Nat × Option MCall) → RState → Outcome RState
  | [], st => .ok st
  | (_, none) :: rest, st => sweepWith d rest st
  | (j, some _) :: rest, st =>
    if st.answered.contains j then sweepWith d rest st
    else (send st j d).bind (fun st' => sweepWith d rest st')

theorem sweep_eq (l : List (Nat × Option MCall)) (st : RState) :
    sweep l st = sweepWith (errD .retryable) l st := by
  induction l generalizing st with
  | nil => rfl
  | cons p rest ih =>
    obtain ⟨j, c⟩ := p
    cases c <;> simp only [sweep, sweepWith, ih]

theorem failAll_eq (d : Delivery) (l : List (Nat × Option MCall)) (out : List (Nat × Delivery)) :
    failAll d l ⟨[], out⟩ = sweepWith d l ⟨[], out⟩ := by
  induction l generalizing out with
  | nil => rfl
  | cons p rest ih =>
    obtain ⟨j, c⟩ := p
    cases c with
    | none => exact ih out
    | some c =>
      simp only [failAll, sweepWith, send]
      split
      · rfl
      · exact ih _

/-- What a sweep appends: `d` for every live call of `l` that is not marked answered, in order. `h0`: such
a call holds no result yet, so the send to it does not block (`sweepWith` marks nothing: the positions of
`l` being distinct keeps `h0` true after a send). -/
theorem sweepWith_eq (d : Delivery) (l : List (Nat × Option MCall)) (hnd : (l.map (·.1)).Nodup)
    (st : RState) (h0 : ∀ j c, (j, some c) ∈ l → j ∉ st.answered → (outIdx st).count j = 0) :
    sweepWith d l st = .ok { st with out := st.out ++
      ((l.filter fun p => p.2.isSome && !st.answered.contains p.1).map (·.1)).map (·, d) } := by
  induction l generalizing st with
  | nil => simp [sweepWith]
  | cons p rest ih =>
    obtain ⟨j0, c0⟩ := p
    obtain ⟨hj0, hnd'⟩ := List.nodup_cons.mp hnd
    have h0' : ∀ j c, (j, some c) ∈ rest → j ∉ st.answered → (outIdx st).count j = 0 :=
      fun j c h => h0 j c (List.mem_cons_of_mem _ h)
    cases c0 with
    | none => simpa [sweepWith] using ih hnd' st h0'
    | some c0 =>
      simp only [sweepWith]
      split
      · rename_i hans
        simpa [List.contains_iff_mem.mp hans] using ih hnd' st h0'
      · rename_i hans
        rw [send_ok (h0 j0 c0 (List.mem_cons_self ..) (not_contains hans))]
        have := ih hnd' { st with out := st.out ++ [(j0, d)] } fun j c h hj => by
          rw [count_outIdx_snoc, if_neg (fun e => hj0 (List.mem_map.mpr ⟨_, h, e⟩)), h0' j c h hj]
        simpa [not_contains hans, Outcome.bind] using this

/-- The sweep over all calls from a state that meets `RInv.count`: afterwards every position that was marked
or is live has exactly one send, and what was appended is `d`. -/
theorem sweepWith_calls (calls : List (Option MCall)) (d : Delivery) (st : RState)
    (hC : ∀ j, (outIdx st).count j = if j ∈ st.answered then 1 else 0) :
    ∃ st', sweepWith d (indexed 0 calls) st = .ok st' ∧
      (∀ j, (outIdx st').count j = if j ∈ st.answered ∨ liveAt calls j = true then 1 else 0) ∧
      ∀ p ∈ st'.out, p ∈ st.out ∨ p.2 = d := by
  refine ⟨_, sweepWith_eq d _ (indexed_fst_nodup 0 calls) st fun j _ _ hj => by rw [hC j, if_neg hj],
    fun j => ?_, fun p hp => ?_⟩
  · have hmem : j ∈ ((indexed 0 calls).filter fun p => p.2.isSome && !st.answered.contains p.1).map (·.1)
        ↔ j ∉ st.answered ∧ liveAt calls j = true := by
      rw [liveAt_iff, List.mem_map]
      constructor
      · rintro ⟨⟨_, c⟩, h, rfl⟩
        obtain ⟨hi, hq⟩ := List.mem_filter.mp h
        cases c with
        | none => cases hq
        | some c => exact ⟨by simpa using hq, c, mem_indexed.mp hi⟩
      · rintro ⟨ha, c, hc⟩
        exact ⟨(j, some c), List.mem_filter.mpr ⟨mem_indexed.mpr hc, by simpa using ha⟩, rfl⟩
    have hC := hC j
    simp only [outIdx, List.map_append, map_fst_map_pair, List.count_append] at hC ⊢
    -- the positions swept are distinct
    rw [hC, ((indexed_fst_nodup 0 calls).sublist (List.filter_sublist.map _)).count]
    simp only [hmem]
    by_cases ha : j ∈ st.answered <;> simp [ha]
  · rcases List.mem_append.mp hp with h | h
    · exact .inl h
    · obtain ⟨_, _, rfl⟩ := List.mem_map.mp h
      exact .inr rfl

theorem multiReturn_err (m : Multi) (msg : Option MultiResp) (e : ErrCls) :
    ∃ ds, multiReturn m msg (some e) = .ok ds ∧
      (∀ j, (ds.map (·.1)).count j = if liveAt m.calls j = true then 1 else 0) ∧
      (∀ p ∈ ds, p.2 = errD e) := by
  obtain ⟨st', h1, h2, h3⟩ := sweepWith_calls m.calls (errD e) ⟨[], []⟩ (fun _ => rfl)
  refine ⟨st'.out, ?_, fun j => by simpa [outIdx] using h2 j, fun p hp => (h3 p hp).resolve_left (nomatch ·)⟩
  simp only [multiReturn, failAll_eq, h1, Outcome.map]

theorem multiReturn_counts (m : Multi) (msg : Option MultiResp) (err : Option ErrCls)
    (ds : List (Nat × Delivery)) (h : multiReturn m msg err = .ok ds) :
    ∀ j, (ds.map (·.1)).count j = if liveAt m.calls j = true then 1 else 0 := by
  cases err with
  | some e =>
    obtain ⟨ds', h1, h2, _⟩ := multiReturn_err m msg e
    rw [h1] at h; cases h; exact h2
  | none =>
    cases msg with
    | none => cases h
    | some mr =>
      simp only [multiReturn] at h
      obtain ⟨st2, hst2, rfl⟩ := map_eq_ok h
      obtain ⟨st1, hst1, hsw⟩ := bind_eq_ok hst2
      have hI1 := returnRars_inv m mr.rars 0 ⟨[], []⟩ st1 (.init _) hst1
      obtain ⟨st2', hsw', hcnt, _⟩ := sweepWith_calls m.calls (errD .retryable) st1 hI1.count
      rw [sweep_eq, hsw'] at hsw
      cases hsw
      intro j
      rw [show (st2.out.map (·.1)) = outIdx st2 from rfl, hcnt j]
      by_cases ha : j ∈ st1.answered
      · simp [ha, hI1.live j ha]
      · simp [ha]

theorem multiReturn_no_fault (m : Multi) (mr : MultiResp) (hv : Validated m mr) (hq : ReqMulti mr) :
    (multiReturn m (some mr) none).isFault = false := by
  simp only [multiReturn]
  rw [isFault_map]
  refine isFault_bind (returnRars_no_fault m mr.rars 0 ⟨[], []⟩ (.init _) hv hq) fun st1 hst1 => ?_
  obtain ⟨st2, h2, _⟩ := sweepWith_calls m.calls (errD .retryable) st1
    (returnRars_inv m mr.rars 0 ⟨[], []⟩ st1 (.init _) hst1).count
  rw [sweep_eq, h2]
  rfl

/-! ### `receive` -/

/-- The message fits the call: what `rpc.NewResponse()` creates (or no message at all). -/
def MsgFits : Rpc → Msg → Prop
  | .multi _, .multi _ => True
  | .multi _, .nil => True
  | .multi _, _ => False
  | _, _ => True

/-- The protobuf library's `required` guarantee for everything a message carries. -/
def ReqMsg : Msg → Prop
  | .multi mr => ReqMulti mr
  | _ => True

def ReqDecoded (d : Decoded) : Prop := ∀ mr, d.multi = some mr → ReqMulti mr

/-- What `receive` hands to its final `returnResult(rpc, response, nil)`: for a multi, a response that
`DeserializeCellBlocks` has validated. -/
def Accepted (rpc : Rpc) (msg : Msg) : Prop :=
  ∀ m, rpc = .multi m → ∃ mr, msg = .multi mr ∧ Validated m mr ∧ ReqMulti mr

theorem Accepted.of_single {rpc : Rpc} {msg : Msg} (h : isMulti rpc = false) : Accepted rpc msg := by
  intro m hm
  subst hm
  cases h

theorem Accepted.multi {m : Multi} {mr : MultiResp} (hv : Validated m mr) (hq : ReqMulti mr) :
    Accepted (.multi m) (.multi mr) := by
  intro m' hm
  cases hm
  exact ⟨mr, rfl, hv, hq⟩

theorem Accepted.fits {rpc : Rpc} {msg : Msg} (h : Accepted rpc msg) : MsgFits rpc msg := by
  cases rpc with
  | multi m => obtain ⟨mr, rfl, _⟩ := h m rfl; trivial
  | _ => trivial

theorem emptyFor_fits (rpc : Rpc) : MsgFits rpc (emptyFor rpc) := by
  cases rpc <;> trivial

theorem decodeFor_fits {rpc : Rpc} {d : Decoded} {msg : Msg} (h : decodeFor rpc d = some msg) :
    MsgFits rpc msg := by
  cases rpc with
  | multi m => obtain ⟨mr, _, rfl⟩ := Option.map_eq_some_iff.mp h; trivial
  | _ => trivial

theorem finish_isFault (rpc : Rpc) (msg : Msg) (err : Option ErrCls) :
    (finish rpc msg err).isFault = (returnResult rpc msg err).isFault :=
  isFault_map _ _

theorem finish_eq_ok {rpc : Rpc} {msg : Msg} {err : Option ErrCls} {v : Verdict}
    (h : finish rpc msg err = .ok v) :
    ∃ ds, returnResult rpc msg err = .ok ds ∧ ⟨ds, err == some .connErr⟩ = v :=
  map_eq_ok h

theorem finish_err_no_fault (rpc : Rpc) (msg : Msg) (e : ErrCls) (hf : MsgFits rpc msg) :
    (finish rpc msg (some e)).isFault = false := by
  rw [finish_isFault]
  unfold returnResult
  cases rpc with
  | multi m =>
    cases msg with
    | multi mr =>
      obtain ⟨ds, h, _⟩ := multiReturn_err m (some mr) e
      simp only [h]; rfl
    | nil =>
      obtain ⟨ds, h, _⟩ := multiReturn_err m none e
      simp only [h]; rfl
    | _ => exact hf.elim
  | _ => rfl

theorem finish_single_no_fault (rpc : Rpc) (msg : Msg) (err : Option ErrCls) (h : isMulti rpc = false) :
    (finish rpc msg err).isFault = false := by
  rw [finish_isFault]
  unfold returnResult
  cases rpc with
  | multi m => cases h
  | _ => rfl

theorem finish_multi_ok_no_fault (m : Multi) (mr : MultiResp) (hv : Validated m mr) (hq : ReqMulti mr) :
    (finish (.multi m) (.multi mr) none).isFault = false := by
  rw [finish_isFault]
  exact multiReturn_no_fault m mr hv hq

theorem finishOk_multi_eq (m : Multi) (mr : MultiResp) :
    finishOk (.multi m) (.multi mr)
      = (multiReturn m (some mr) none).map (fun ds => ⟨ds, serverErrorIn mr⟩) := rfl

theorem finishOk_no_fault {rpc : Rpc} {msg : Msg} (h : Accepted rpc msg) :
    (finishOk rpc msg).isFault = false := by
  cases rpc with
  | multi m =>
    obtain ⟨mr, rfl, hv, hq⟩ := h m rfl
    rw [finishOk_multi_eq, isFault_map]
    exact multiReturn_no_fault m mr hv hq
  | _ => rfl

theorem deserializeFor_safe {rpc : Rpc} {d : Decoded} {msg : Msg} (h : decodeFor rpc d = some msg)
    (hc : canDeserialize rpc = true) (hq : ReqDecoded d) (b : Bytes) :
    (deserializeFor rpc msg b).Safe (fun p => Accepted rpc p.1) := by
  cases rpc with
  | other => cases hc
  | multi m =>
    obtain ⟨mr, hd, rfl⟩ := Option.map_eq_some_iff.mp h
    exact Safe.map ((multiDeserialize_safe m mr b).mono fun p ⟨_, hv, he⟩ =>
      .multi hv (reqMulti_congr he (hq mr hd)))
  | get =>
    obtain ⟨r, _, rfl⟩ := Option.map_eq_some_iff.mp h
    exact Safe.map ((getDeserialize_safe r b).mono fun _ _ => .of_single rfl)
  | mutate =>
    obtain ⟨r, _, rfl⟩ := Option.map_eq_some_iff.mp h
    exact Safe.map ((getDeserialize_safe r b).mono fun _ _ => .of_single rfl)
  | scan =>
    obtain ⟨r, _, rfl⟩ := Option.map_eq_some_iff.mp h
    exact Safe.map ((scanDeserialize_safe r b).mono fun _ _ => .of_single rfl)

/-- What is left of the frame after header and response, in the `uint64` arithmetic of the guard
`cellsLen > size - headerLen - responseLen`. -/
theorem subU64_rest {size hl rl : Nat} (hsize : size < two32) (hlens : hl + rl ≤ size) :
    subU64 (subU64 size hl) rl = size - hl - rl := by
  have t64 : two32 < two64 := by decide
  rw [show subU64 size hl = size - hl from sub_mod_of_le (by omega) (by omega)]
  exact sub_mod_of_le (by omega) (by omega)

theorem receiveDecide_exception (lookup : Nat → Option Rpc) (decompress : Option (Bytes → Outcome Bytes))
    (f : Frame) (id : Nat) (rpc : Rpc) (e : ExceptionResponse) (hid : f.header.callId = some id)
    (hl : lookup id = some rpc) (he : f.header.exception = some e) :
    receiveDecide lookup false decompress f
      = finish rpc .nil (some (exceptionToError (e.className.getD []) (e.stackTrace.getD []))) := by
  unfold receiveDecide
  simp only [hid, hl, he, Bool.false_eq_true, if_false]

/-- How a `receive` without a header exception ends, for a registered call whose context is live: in
one of the two slice expressions, by giving the response up with a `RetryableError`, or by
delivering it. -/
def Exit (rpc : Rpc) (r : Outcome Verdict) : Prop :=
  (∃ w, r = .fault w) ∨ (∃ msg, r = finish rpc msg (some .retryable)) ∨ ∃ msg, r = finishOk rpc msg

theorem Exit.fault {rpc : Rpc} (w : String) : Exit rpc (.fault w) := .inl ⟨w, rfl⟩

theorem Exit.giveUp {rpc : Rpc} (msg : Msg) : Exit rpc (finish rpc msg (some .retryable)) :=
  .inr (.inl ⟨msg, rfl⟩)

theorem Exit.deliver {rpc : Rpc} (msg : Msg) : Exit rpc (finishOk rpc msg) := .inr (.inr ⟨msg, rfl⟩)

theorem Exit.ite {rpc : Rpc} {c : Prop} [Decidable c] {x y : Outcome Verdict} (hx : Exit rpc x)
    (hy : Exit rpc y) : Exit rpc (if c then x else y) := by
  split <;> assumption

theorem receiveDecide_exits (lookup : Nat → Option Rpc) (decompress : Option (Bytes → Outcome Bytes))
    (f : Frame) (id : Nat) (rpc : Rpc) (hid : f.header.callId = some id) (hl : lookup id = some rpc)
    (he : f.header.exception = none) : Exit rpc (receiveDecide lookup false decompress f) := by
  unfold receiveDecide
  rw [hid]
  dsimp only
  rw [hl]
  dsimp only
  rw [if_neg Bool.false_ne_true, he]
  dsimp only
  refine .ite (.fault _) ?_
  cases f.respLen
  · exact .giveUp _
  dsimp only
  cases decodeFor rpc f.decoded
  · exact .giveUp _
  dsimp only
  refine .ite (.deliver _) (.ite (.giveUp _) (.ite (.fault _) ?_))
  -- the decompressed cellblock, then what `DeserializeCellBlocks` makes of it
  split
  · exact .fault _
  · exact .giveUp _
  split
  · exact .fault _
  · exact .giveUp _
  · exact .ite (.giveUp _) (.deliver _)

theorem finish_multi_counts {m : Multi} {msg : Msg} {err : Option ErrCls} {v : Verdict}
    (h : finish (.multi m) msg err = .ok v) :
    ∀ j, (v.deliveries.map (·.1)).count j = if liveAt m.calls j = true then 1 else 0 := by
  obtain ⟨ds, hds, rfl⟩ := finish_eq_ok h
  unfold returnResult at hds
  cases msg with
  | multi mr => exact multiReturn_counts m _ _ ds hds
  | nil => exact multiReturn_counts m _ _ ds hds
  | _ => cases hds

theorem finishOk_multi_ok {m : Multi} {msg : Msg} {v : Verdict} (h : finishOk (.multi m) msg = .ok v) :
    ∃ mr, msg = .multi mr ∧ multiReturn m (some mr) none = .ok v.deliveries ∧ v.connFail = serverErrorIn mr := by
  cases msg with
  | multi mr =>
    rw [finishOk_multi_eq] at h
    obtain ⟨ds, hds, rfl⟩ := map_eq_ok h
    exact ⟨mr, rfl, hds, rfl⟩
  | _ => cases h

/-! ### scanner coalescing -/

/-- When `coalesce` does not take `part` in (`p.2 = false`), what it hands back is complete: that is why
`nextLoop` returns then instead of going round again. -/
theorem coalesce_safe (result : Option PResult) (part : PResult) :
    (coalesce result part).Safe (fun p => p.2 = false → p.1.partialFlag.getD false = false) := by
  unfold coalesce
  cases result with
  | none => exact fun h => nomatch h
  | some r =>
    dsimp only
    split
    · rename_i hp
      exact fun _ => by simpa using hp
    · -- an empty cell list on either side is no new row: the merge arm, which answers `done = true`
      cases r.cells with
      | nil => simp
      | cons a as =>
        cases part.cells with
        | nil => simp
        | cons b bs =>
          -- a new row hands `r` back with `partialFlag := some false`; the same row merges (`done = true`)
          cases h : a.row != b.row <;> simp [cell0, h]

theorem nextLoop_safe (result : Option PResult) (buf : List PResult) :
    (nextLoop result buf).Safe (fun p => p.2.length ≤ buf.length) := by
  induction buf generalizing result with
  | nil => cases result <;> exact Nat.le_refl _
  | cons p rest ih =>
    rw [nextLoop.eq_3]   -- the clause for a buffer that is not empty
    refine (coalesce_safe result p).elim (fun (r, done) hd => ?_) (fun e => trivial)
    dsimp only at hd ⊢
    split
    · cases done
      · exact Nat.le_refl _
      · exact Nat.le_succ _
    · rename_i hpart
      cases done with
      | true => exact (ih _).mono fun q hq => Nat.le_succ_of_le hq
      | false => rw [hd rfl] at hpart; exact absurd rfl hpart

/-! ### region info -/

def ReqDecode (decode : Bytes → Option RegionInfoPB) : Prop :=
  ∀ b ri, decode b = some ri → ri.tableName.isSome = true

theorem infoFromCell_safe (decode : Bytes → Option RegionInfoPB) (hreq : ReqDecode decode)
    (value : Bytes) : (infoFromCell decode value).Safe (fun _ => True) := by
  unfold infoFromCell
  refine Safe.ite_err fun hlen => ?_
  cases value with
  | nil => exact absurd rfl hlen
  | cons v0 t =>
    dsimp only
    refine Safe.ite_err fun _ => Safe.ite_err fun h4 => ?_
    rw [if_neg h4]
    refine Safe.ite_err fun _ => ?_
    split
    · trivial
    · rename_i ri hri
      refine Safe.ite_err fun _ => ?_
      have := hreq _ ri hri
      split
      · rename_i hn; rw [hn] at this; cases this
      · trivial

theorem parseLoop_safe (decode : Bytes → Option RegionInfoPB) (hreq : ReqDecode decode)
    (cells : List (MetaQual × Bytes)) (reg : Bool) (addr : Bytes) :
    (parseLoop decode cells reg addr).Safe (fun _ => True) := by
  induction cells generalizing reg addr with
  | nil => trivial
  | cons c rest ih =>
    obtain ⟨q, v⟩ := c
    cases q with
    | regioninfo =>
      unfold parseLoop
      exact (infoFromCell_safe decode hreq v).elim (fun _ _ => ih _ _) (fun e => trivial)
    | server =>
      unfold parseLoop
      split <;> exact ih _ _
    | other =>
      unfold parseLoop
      exact ih _ _

theorem parseRegionInfo_safe (decode : Bytes → Option RegionInfoPB) (hreq : ReqDecode decode)
    (cells : List (MetaQual × Bytes)) : (parseRegionInfo decode cells).Safe (fun _ => True) := by
  unfold parseRegionInfo
  refine (parseLoop_safe decode hreq cells false []).elim (fun (reg, addr) _ => ?_) (fun e => trivial)
  exact Safe.ite_err fun _ => Safe.ite_err fun _ => trivial
end GV.Receive
