import GohbaseVerif.Lemmas.Compress
/-!
# C15 — Cellblock compression round-trips and follows Hadoop block framing

`compressCellblocks` / `decompressCellblocks` are the models of `region/compressor.go`
(`Model/Compress.lean`); `Spec.*` is the Hadoop block-compressed stream format written from its
description with an independent reference decoder.  The codec is a parameter; its contract is a
hypothesis (`Codec.Roundtrip` = `snappy.Decode(snappy.Encode s) = s`), never an axiom.

Hypotheses used throughout: `c.Roundtrip`, `0 < c.chunkLen`, payload shorter than 2^32, and
`hfit`: the codec's output for one chunk fits the 4-byte chunk-length field (snappy: at most
`32 + n + n/6` bytes for `n ≤ 218 421`).  `hfit` is necessary: the Go code stores
`uint32(len(chunk))`.
-/
namespace GV.Compress
open GV

/-! ## conforming server → client -/

/-- What a conforming server compresses the client decompresses identically: for all lists of
blocks and all chunkings of them (non-empty chunks, length fields that fit). -/
theorem decompress_conforming (c : Codec) (hrt : c.Roundtrip) (blocks : List Bytes)
    (chunking : List Spec.Pieces) (hch : chunking.map List.flatten = blocks)
    (hws : Spec.WellSized c chunking) :
    decompressCellblocks c (Spec.encode c chunking) = .ok blocks.flatten := by
  rw [decompressCellblocks, blockLoop_of_parseStream c _ [] (Spec.parseStream_encode c hrt chunking hws), ← hch]
  simp [List.map_map, Function.comp_def]

/-- The reference decoder reads the same streams (the specification is not vacuous) … -/
theorem spec_decodes_conforming (c : Codec) (hrt : c.Roundtrip) (chunking : List Spec.Pieces)
    (hws : Spec.WellSized c chunking) :
    Spec.decodeStream c (Spec.encode c chunking) = some (Spec.rawData chunking) := by
  unfold Spec.decodeStream
  rw [Spec.parseStream_encode c hrt chunking hws]
  simp [Spec.rawData, List.map_map, Function.comp_def]

/-- … and accepts only streams whose declared block lengths are exact. -/
theorem spec_lengths_exact (c : Codec) (s : Bytes) (bs : List Spec.PBlock)
    (h : Spec.parseStream c s = some bs) : ∀ pb ∈ bs, pb.pieces.flatten.length = pb.rawLen := by
  fun_induction Spec.parseStream c s generalizing bs
  case case1 => cases h; simp                     -- no blocks
  case case5 hp _ hs ih =>                        -- a block, then the rest
    cases h
    intro pb hpb
    rcases List.mem_cons.mp hpb with rfl | hpb
    · exact Spec.parseChunks_sum _ _ _ hp
    · exact ih _ hs pb hpb
  all_goals cases h                               -- `none`

/-
Full statement (client decoder = reference decoder on *all* inputs):
  `∀ c s, outOpt (decompressCellblocks c s) = Spec.decodeStream c s`.
It is false of the code in general: `uncompressedSoFar += uncompressedChunkLen` is `uint32`
arithmetic, so a block whose chunks decode to 2^32 bytes or more in total can wrap around, miss
the `>` check and be accepted with a declared length that differs from the data produced, while
the reference decoder (which counts in ℕ) rejects it.  (What the reference decoder accepts the client
always accepts: `blockLoop_of_parseStream`.)  Proved here for every stream on which no wrap is
possible: the codec expands a chunk at most `R`-fold and `R · |s| < 2^32` (raw snappy: `R = 22`, a
3-byte copy element yields at most 64 bytes; i.e. streams below 195 MB).  Excluded: exactly the
streams with `R · |s| ≥ 2^32`.
-/
theorem decompress_eq_spec_partial (c : Codec) (R : Nat) (hexp : c.ExpandsAtMost R) (s : Bytes)
    (hs : R * s.length < U32) :
    outOpt (decompressCellblocks c s) = Spec.decodeStream c s := by
  unfold decompressCellblocks Spec.decodeStream
  cases hp : Spec.parseStream c s with
  | none =>
    obtain ⟨e, he⟩ := blockLoop_of_parseStream_none c R hexp s [] hs hp
    rw [he]; rfl
  | some bs => rw [blockLoop_of_parseStream c s [] hp]; rfl

/-! ## compressor → decompressor -/

/-- What the client compresses, the client decompresses to the identical bytes — for any split of
the payload into buffers (empty buffers included) and any size relative to the chunk size,
0 bytes included. -/
theorem roundtrip (c : Codec) (hrt : c.Roundtrip) (hc : 0 < c.chunkLen)
    (hfit : ∀ p : Bytes, p.length ≤ c.chunkLen → (c.encode p).length < U32)
    (bufs : List Bytes) (htot : (bufs.map List.length).sum < U32) :
    decompressCellblocks c (compressCellblocks c bufs (bufs.map List.length).sum) = .ok bufs.flatten := by
  rw [← List.length_flatten] at htot ⊢
  have hk := Nat.ne_of_gt hc
  rw [compress_eq_encode c hc]
  have := decompress_conforming c hrt [bufs.flatten] [Spec.chunksOf c.chunkLen bufs.flatten]
    (by rw [List.map_singleton, Spec.chunksOf_flatten hk]) (wellSized_chunksOf c hk hfit htot)
  rwa [List.flatten_singleton] at this

/-- The compressor's output is a conforming Hadoop stream: exactly one block, declared length =
payload length, whose chunks are the payload cut into pieces of `chunkLen` bytes except the last
(no chunk at all for an empty payload). -/
theorem compress_is_hadoop (c : Codec) (hc : 0 < c.chunkLen)
    (hfit : ∀ p : Bytes, p.length ≤ c.chunkLen → (c.encode p).length < U32)
    (bufs : List Bytes) (htot : (bufs.map List.length).sum < U32) :
    Spec.hadoopStream c (compressCellblocks c bufs (bufs.map List.length).sum) ∧
    ∃ pieces : Spec.Pieces,
      compressCellblocks c bufs (bufs.map List.length).sum = Spec.encode c [pieces] ∧
      pieces.flatten = bufs.flatten ∧
      (bufs.flatten = [] → pieces = []) ∧
      (bufs.flatten ≠ [] → ∃ init last, pieces = init ++ [last] ∧
        (∀ p ∈ init, p.length = c.chunkLen) ∧ 0 < last.length ∧ last.length ≤ c.chunkLen) := by
  rw [← List.length_flatten] at htot ⊢
  have hk := Nat.ne_of_gt hc
  rw [compress_eq_encode c hc]
  constructor
  · refine ⟨[_], wellSized_chunksOf c hk hfit htot, fun ps hps p hp => ?_, rfl⟩
    obtain rfl := List.mem_singleton.mp hps
    exact (Spec.chunksOf_mem hp).2
  · refine ⟨_, rfl, Spec.chunksOf_flatten hk _, fun h0 => by rw [h0, Spec.chunksOf_nil], fun hne => ?_⟩
    obtain ⟨init, last, e, hi⟩ := Spec.chunksOf_init_last hk hne
    have hlast := Spec.chunksOf_mem (k := c.chunkLen) (s := bufs.flatten) (p := last) (by rw [e]; simp)
    exact ⟨init, last, e, hi, List.length_pos_iff.mpr hlast.1, hlast.2⟩

/-! ## truncation -/

/-- A cut anywhere *inside* a block of a multi-block stream (after at least one of its bytes, before
its last) is an error, whatever precedes the block. -/
theorem truncation_errors_multi (c : Codec) (hrt : c.Roundtrip) (before : List Spec.Pieces)
    (pieces : Spec.Pieces) (hws : Spec.WellSized c (before ++ [pieces])) (m : Nat) (h0 : 0 < m)
    (hm : m < (Spec.encBlock c pieces).length) :
    ∃ e, decompressCellblocks c (Spec.encode c before ++ (Spec.encBlock c pieces).take m) = .err e := by
  unfold decompressCellblocks
  rw [blockLoop_encode c hrt before (fun ps h => hws ps (by simp [h]))]
  obtain ⟨hL, hps⟩ := hws pieces (by simp)
  have hread := chunkLoop_of_parseChunks c hL 0 (Nat.zero_le _) _ (Spec.rawData before)
    (Spec.parseChunks_pieces c hrt pieces hps [])
  rw [List.append_nil] at hread
  exact blockLoop_take_block c hL _ _ hread h0 (by simpa [Spec.encBlock] using hm)

/-- In particular every proper non-empty prefix of a one-block stream yields an error (any raw
length). -/
theorem truncation_errors (c : Codec) (hrt : c.Roundtrip) (pieces : Spec.Pieces)
    (hws : Spec.WellSized c [pieces]) (p : Bytes)
    (hpre : p <+: Spec.encode c [pieces]) (hne : p ≠ []) (hproper : p ≠ Spec.encode c [pieces]) :
    ∃ e, decompressCellblocks c p = .err e := by
  have henc : Spec.encode c [pieces] = Spec.encBlock c pieces := by simp [Spec.encode]
  rw [henc] at hpre hproper
  have hp : p = (Spec.encBlock c pieces).take p.length := List.prefix_iff_eq_take.mp hpre
  have hlt : p.length < (Spec.encBlock c pieces).length :=
    Nat.lt_of_le_of_ne hpre.length_le fun h => hproper (by rw [hp, h, List.take_length])
  rw [hp]
  exact truncation_errors_multi c hrt [] pieces hws p.length (List.length_pos_iff.mpr hne) hlt

/-- The 0-byte prefix yields empty output without error (unreachable from `receive`, which only
decompresses when the response header declares a non-zero cellblock length). -/
theorem truncation_to_nothing_is_ok (c : Codec) : decompressCellblocks c [] = .ok [] :=
  blockLoop_nil []

/-- The limit of what framing can detect: a stream cut exactly at a block boundary is itself a
conforming stream and decodes, without error, to the data of the blocks before the cut. -/
theorem truncation_at_block_boundary_undetected (c : Codec) (hrt : c.Roundtrip)
    (kept lost : List Spec.Pieces) (hws : Spec.WellSized c (kept ++ lost)) :
    Spec.encode c kept <+: Spec.encode c (kept ++ lost) ∧
    decompressCellblocks c (Spec.encode c kept) = .ok (Spec.rawData kept) :=
  ⟨by simp [Spec.encode],
    decompress_conforming c hrt _ kept rfl fun ps h => hws ps (List.mem_append_left _ h)⟩

/-! ## what the framing detects, and what it cannot -/

/-- If the client returns data, the stream is a sequence of framed blocks whose chunks all decode,
the data is their concatenation, and every declared block length agrees with the bytes produced
for that block (modulo 2^32 — the `uint32` accumulator; exactly, when the output is shorter than
2^32 bytes: second theorem). -/
theorem length_field_consistency (c : Codec) (s d : Bytes) (h : decompressCellblocks c s = .ok d) :
    ∃ blocks : List Spec.FBlock,
      s = Spec.frameStream blocks ∧ (∀ b ∈ blocks, b.Valid c) ∧
      d = (blocks.map Spec.FBlock.data).flatten ∧
      ∀ b ∈ blocks, b.data.length % U32 = b.rawLen := by
  obtain ⟨fbs, h1, h2, h3, h4⟩ := blockLoop_ok_blocks c s [] d h
  exact ⟨fbs, h1, h2, by simpa using h3, h4⟩

theorem length_field_consistency_exact (c : Codec) (s d : Bytes)
    (h : decompressCellblocks c s = .ok d) (hd : d.length < U32) :
    ∃ blocks : List Spec.FBlock,
      s = Spec.frameStream blocks ∧ (∀ b ∈ blocks, b.Valid c) ∧
      d = (blocks.map Spec.FBlock.data).flatten ∧
      (∀ b ∈ blocks, b.data.length = b.rawLen) ∧
      d.length = (blocks.map (·.rawLen)).sum := by
  obtain ⟨fbs, h1, h2, h3, h4⟩ := length_field_consistency c s d h
  have hex : ∀ b ∈ fbs, b.data.length = b.rawLen := by
    intro b hb
    have h5 := h4 b hb
    have : b.data.length ≤ d.length := by
      rw [h3]; exact (List.sublist_flatten_of_mem (List.mem_map_of_mem hb)).length_le
    rw [Nat.mod_eq_of_lt (by omega)] at h5
    exact h5
  refine ⟨fbs, h1, h2, h3, hex, ?_⟩
  rw [h3, List.length_flatten, List.map_map]
  exact congrArg _ (List.map_congr_left hex)

/-- NEGATIVE (inherent to the format): a codec without an integrity check cannot make payload
corruption detectable.  Whenever one byte of a chunk's compressed bytes can be changed into the
compressed bytes of different data of the same length, the corrupted stream is a conforming
stream and the client returns the different data with no error. -/
theorem payload_corruption_undetectable_any (c : Codec) (hrt : c.Roundtrip) (hc : 0 < c.chunkLen)
    (p q : Bytes) (j : Nat) (v : UInt8) (hp : p ≠ []) (hpc : p.length ≤ c.chunkLen)
    (hpl : p.length < U32) (hfit : (c.encode p).length < U32) (hql : q.length = p.length)
    (hq : c.encode q = (c.encode p).set j v) :
    (compressCellblocks c [p] p.length).set (8 + j) v = Spec.encode c [[q]] ∧
    decompressCellblocks c ((compressCellblocks c [p] p.length).set (8 + j) v) = .ok q := by
  have hpos : 0 < p.length := List.length_pos_iff.mpr hp
  have hset : (Spec.encode c [[p]]).set (8 + j) v = Spec.encode c [[q]] := by
    rw [Spec.set_encode_single, Spec.encode_single c q, hq, hql, List.length_set]
  have hws : Spec.WellSized c [[q]] := by
    intro ps hps
    obtain rfl := List.mem_singleton.mp hps
    refine ⟨by rw [List.flatten_singleton, hql]; exact hpl, fun x hx => ?_⟩
    obtain rfl := List.mem_singleton.mp hx
    exact ⟨List.ne_nil_of_length_pos (hql ▸ hpos), by rw [hq, List.length_set]; exact hfit⟩
  rw [compress_of_le c hc hp hpc, hset]
  exact ⟨rfl, by simpa using decompress_conforming c hrt [q] [[q]] (by simp) hws⟩

/-- The concrete witness: identity-like codec (the tests' mock), payload `01`, stream
`00000001 00000001 01`; changing the last byte to `02` gives `ok 02` — different data, no error. -/
theorem payload_corruption_undetectable :
    ∃ (c : Codec) (payload : Bytes) (i : Nat) (v : UInt8) (d : Bytes),
      c.Roundtrip ∧ i < (compressCellblocks c [payload] payload.length).length ∧
      (compressCellblocks c [payload] payload.length).set i v ≠ compressCellblocks c [payload] payload.length ∧
      decompressCellblocks c ((compressCellblocks c [payload] payload.length).set i v) = .ok d ∧
      d ≠ payload := by
  have hrt : (idCodec 4).Roundtrip := fun _ => rfl
  have key := payload_corruption_undetectable_any (idCodec 4) hrt (by decide) [1] [2] 0 2
    (by decide) (by decide) (by decide) (by decide) rfl rfl
  have hcomp : compressCellblocks (idCodec 4) [[1]] ([1] : Bytes).length = [0, 0, 0, 1, 0, 0, 0, 1, 1] :=
    compress_of_le (idCodec 4) (by decide) (by decide) (by decide)
  exact ⟨idCodec 4, [1], 8, 2, [2], hrt, by rw [hcomp]; decide, by rw [hcomp]; decide, key.2, by decide⟩

/-- NEGATIVE witness for the full-strength `decompress_eq_spec` (and for an unconditional, exact
`length_field_consistency`): the `uint32` accumulator wraps.  A block that declares 1 byte and
whose single chunk decodes to `N ≡ 1 (mod 2^32)`, `N > 1` bytes (e.g. 2^32 + 1) is accepted by
the client — `N` bytes returned, no error — and rejected by the reference decoder. -/
theorem uint32_wrap_accepts_inconsistent_block (N : Nat) (hN : N % U32 = 1) (h1 : 1 < N) :
    let c : Codec := ⟨id, fun _ => some (List.replicate N 0), 4⟩
    decompressCellblocks c [0, 0, 0, 1, 0, 0, 0, 0] = .ok (List.replicate N 0) ∧
    Spec.decodeStream c [0, 0, 0, 1, 0, 0, 0, 0] = none := by
  intro c
  -- the stream is one block declaring 1 byte with one empty chunk
  have hs : ([0, 0, 0, 1, 0, 0, 0, 0] : Bytes) = toBE 4 1 ++ (toBE 4 ([] : Bytes).length ++ ([] ++ [])) := rfl
  have hd : c.decode [] = some (List.replicate N 0) := rfl
  rw [hs]
  constructor
  · unfold decompressCellblocks
    rw [blockLoop_block (by decide), chunkLoop_item (by decide) (by decide), hd]
    simp only [List.length_replicate, hN]
    rw [chunkLoop_done (by decide)]
    exact blockLoop_nil _
  · unfold Spec.decodeStream
    rw [Spec.parseStream_block (by decide), Spec.parseChunks_item (by decide) (by decide), hd]
    simp only [List.length_replicate, h1, if_true]
    rfl

example : ∃ N, N % U32 = 1 ∧ 1 < N := ⟨4294967297, by decide, by decide⟩

/-! ## regenerated constant and non-vacuity -/

/-- The snappy chunk size the working tree uses (regenerated on every run). -/
theorem snappy_chunk_len : Gen.Wire.snappyChunkLen = 218421 := by decide

/-- With that chunk size and snappy's documented worst case (`32 + n + n/6`), `hfit` holds. -/
theorem snappy_fits (enc : Bytes → Bytes) (hmax : ∀ p : Bytes, (enc p).length ≤ 32 + p.length + p.length / 6) :
    ∀ p : Bytes, p.length ≤ Gen.Wire.snappyChunkLen → (enc p).length < U32 := by
  intro p hp
  have := hmax p
  rw [snappy_chunk_len] at hp
  simp only [U32]; omega

example : (idCodec 4).Roundtrip ∧ 0 < (idCodec 4).chunkLen ∧
    ∀ p : Bytes, p.length ≤ (idCodec 4).chunkLen → ((idCodec 4).encode p).length < U32 :=
  ⟨fun _ => rfl, by decide, fun p hp => by
    have : (idCodec 4).chunkLen = 4 := rfl
    have h2 : (idCodec 4).encode p = p := rfl
    rw [h2]; simp only [U32]; omega⟩

/-- A codec that really changes the bytes (every byte incremented) and expands. -/
def incCodec : Codec :=
  ⟨fun s => 0 :: s.map (· + 1), fun x => match x with | [] => none | _ :: t => some (t.map (· - 1)), 3⟩

theorem incCodec_roundtrip : incCodec.Roundtrip := by
  intro s
  simp only [incCodec, List.map_map]
  congr 1
  have : ((fun x : UInt8 => x - 1) ∘ fun x => x + 1) = id := by
    funext x; simp
  rw [this, List.map_id]

example : incCodec.Roundtrip := incCodec_roundtrip

example : decompressCellblocks incCodec
    (compressCellblocks incCodec [[1, 2], [], [3, 4, 5, 6], [], [7]] 7) = .ok [1, 2, 3, 4, 5, 6, 7] := by
  have := roundtrip incCodec incCodec_roundtrip (by decide)
    (fun p hp => by
      have : (incCodec.encode p).length = p.length + 1 := by simp [incCodec]
      have h3 : incCodec.chunkLen = 3 := rfl
      rw [this]; simp only [U32]; omega)
    [[1, 2], [], [3, 4, 5, 6], [], [7]] (by decide)
  simpa using this

example : (idCodec 4).ExpandsAtMost 1 := by
  intro x d h
  have : d = x := by simp [idCodec] at h; exact h.symm
  subst this; omega

end GV.Compress
