import GohbaseVerif.Lemmas.ConnOwn
/-!
The in-flight counter, `inFlightM` with its FIFO queue and the read deadline of one region connection
(C18): the invariant `GD`; the moves that occur, as lemmas about `GD`, then `GD` through the helpers;
and `Rest`, which moves that do not release `inFlightM` keep (`QKeep`) and `releaseM` restores.
The moves: `gd_mapW` / `gd_filterW` change / end the send of one goroutine `w` that is not queued;
`gd_enqueue` / `gd_popNoAdd` put a waiter that stands for no pending `inFlight++` at the end of the
queue / take it off its head; `gd_regQueue` registers an item and queues its sender for the
`inFlight++`; `gd_count` carries that `inFlight++` out (`gd_takeAdd`: with the sender's next phase).
-/
namespace GV.Conn

theorem mem_of_mem_left {α : Type} {q l1 l2 : List α} {r e : α} (hq : q = l1 ++ r :: l2)
    (he : e ∈ l1) : e ∈ q := hq ▸ List.mem_append_left _ he

theorem mem_of_eq_middle {α : Type} {q l1 l2 : List α} {r : α} (hq : q = l1 ++ r :: l2) : r ∈ q :=
  hq ▸ List.mem_append_right _ (List.mem_cons_self ..)

theorem split_snoc {α : Type} (q : List α) (e r : α) (l1 l2 : List α)
    (h : q ++ [e] = l1 ++ r :: l2) :
    (e = r ∧ l1 = q ∧ l2 = []) ∨ (∃ l2', l2 = l2' ++ [e] ∧ q = l1 ++ r :: l2') := by
  rcases List.eq_nil_or_concat l2 with rfl | ⟨l2', x, rfl⟩
  · obtain ⟨h1, h2⟩ := List.append_inj' h rfl
    exact .inl ⟨List.singleton_inj.1 h2, h1.symm, rfl⟩
  · rw [List.concat_eq_append, ← List.cons_append, ← List.append_assoc] at h
    obtain ⟨h1, h2⟩ := List.append_inj' h rfl
    refine .inr ⟨l2', ?_, h1⟩
    rw [List.concat_eq_append, List.singleton_inj.1 h2]

theorem pred_mod {k m : Nat} (h1 : 1 ≤ k) (h2 : k < m) : (k + m - 1) % m = k - 1 := by
  rw [Nat.sub_add_comm h1, Nat.add_mod_right, Nat.mod_eq_of_lt (Nat.lt_of_le_of_lt (Nat.sub_le k 1) h2)]

/-- number of pending `inFlight++` in (a part of) the queue -/
def cntQ (l : List Snd) (q : List MW) : Nat := q.countP (qAdd l)

theorem cntQ_nil (l : List Snd) : cntQ l [] = 0 := rfl

theorem cntQ_cons (l : List Snd) (e : MW) (q : List MW) :
    cntQ l (e :: q) = (if qAdd l e then 1 else 0) + cntQ l q := by
  simp only [cntQ, List.countP_cons]; omega

theorem cntQ_append (l : List Snd) (q₁ q₂ : List MW) : cntQ l (q₁ ++ q₂) = cntQ l q₁ + cntQ l q₂ := by
  simp only [cntQ, List.countP_append]

theorem cntQ_congr {l l' : List Snd} {q : List MW}
    (h : ∀ w, MW.sender w ∈ q → phaseOf l' w = phaseOf l w) : cntQ l' q = cntQ l q := by
  induction q with
  | nil => rfl
  | cons e q ih =>
    have e1 : qAdd l' e = qAdd l e := by
      cases e with
      | reader => rfl
      | sender w => simp only [qAdd, h w (List.mem_cons_self ..)]
    rw [cntQ_cons, cntQ_cons, ih (fun w hw => h w (List.mem_cons_of_mem _ hw)), e1]

theorem cntQ_sends_nil (q : List MW) : cntQ [] q = 0 := by
  induction q with
  | nil => rfl
  | cons e q ih => rw [cntQ_cons, ih]; cases e <;> rfl

theorem phaseOf_of_mem {l : List Snd} (hnd : (l.map (·.who)).Nodup) {x : Snd} (hx : x ∈ l) :
    phaseOf l x.who = some x.phase := by
  cases hf : l.find? (fun y => y.who == x.who) with
  | none => exact absurd (List.find?_eq_none.1 hf x hx) (by simp)
  | some y =>
    have : y = x := eq_of_nodup_map (·.who) hnd (List.mem_of_find?_eq_some hf) hx
      (by simpa using List.find?_some hf)
    simp [phaseOf, hf, this]

theorem phaseOf_none {l : List Snd} {w : Who} (h : ∀ x ∈ l, x.who ≠ w) : phaseOf l w = none := by
  simp only [phaseOf, Option.map_eq_none_iff, List.find?_eq_none]
  intro x hx; simpa using h x hx

theorem phaseOf_some_mem {l : List Snd} {w : Who} {p : Phase} (h : phaseOf l w = some p) :
    ∃ x ∈ l, x.who = w ∧ x.phase = p := by
  simp only [phaseOf, Option.map_eq_some_iff] at h
  obtain ⟨x, hx, rfl⟩ := h
  exact ⟨x, List.mem_of_find?_eq_some hx, by simpa using List.find?_some hx, rfl⟩

theorem who_ite (w : Who) (g : Snd → Snd) (hg : ∀ y, (g y).who = y.who) (y : Snd) :
    (if y.who == w then g y else y).who = y.who := by
  split
  · exact hg y
  · rfl

theorem map_who_map (l : List Snd) (g : Snd → Snd) (hg : ∀ y, (g y).who = y.who) :
    (l.map g).map (·.who) = l.map (·.who) := by
  simp [List.map_map, Function.comp_def, hg]

theorem find_map_who (l : List Snd) (g : Snd → Snd) (hg : ∀ y, (g y).who = y.who) (w : Who) :
    (l.map g).find? (fun x => x.who == w) = (l.find? (fun x => x.who == w)).map g := by
  induction l with
  | nil => rfl
  | cons a l ih =>
    simp only [List.map_cons, List.find?_cons, hg a]
    cases h : (a.who == w)
    · simpa using ih
    · simp

theorem phaseOf_map_ne (l : List Snd) (w w' : Who) (g : Snd → Snd) (hg : ∀ y, (g y).who = y.who)
    (hne : w' ≠ w) :
    phaseOf (l.map (fun y => if y.who == w then g y else y)) w' = phaseOf l w' := by
  simp only [phaseOf]
  rw [find_map_who l _ (who_ite w g hg) w']
  cases hf : l.find? (fun x => x.who == w') with
  | none => rfl
  | some x =>
    have hx : x.who = w' := by simpa using List.find?_some hf
    have : ¬ x.who = w := by rw [hx]; exact hne
    simp [this]

theorem phaseOf_setPhase (l : List Snd) (w : Who) (p : Phase) {x : Snd} (hx : x ∈ l) (hxw : x.who = w) :
    phaseOf (l.map (fun y => if y.who == w then { y with phase := p } else y)) w = some p := by
  simp only [phaseOf]
  rw [find_map_who l _ (who_ite w (fun y => { y with phase := p }) (fun _ => rfl)) w]
  cases hf : l.find? (fun y => y.who == w) with
  | none => exact absurd (List.find?_eq_none.1 hf x hx) (by simp [hxw])
  | some a =>
    have : a.who = w := by simpa using List.find?_some hf
    simp [this]

theorem phaseOf_filter_ne (l : List Snd) (w w' : Who) (hne : w' ≠ w) :
    phaseOf (l.filter (fun x => x.who != w)) w' = phaseOf l w' := by
  simp only [phaseOf, List.find?_filter]
  congr 2; funext x
  by_cases h : x.who = w' <;> simp [h, hne]

theorem phaseOf_append_ne (l : List Snd) (x : Snd) (w' : Who) (hne : w' ≠ x.who) :
    phaseOf (l ++ [x]) w' = phaseOf l w' := by
  have : (x.who == w') = false := by simpa using fun e => hne e.symm
  simp [phaseOf, List.find?_append, this]

theorem phaseOf_append_new (l : List Snd) (x : Snd) (h : ∀ y ∈ l, y.who ≠ x.who) :
    phaseOf (l ++ [x]) x.who = some x.phase := by
  simp only [phaseOf, List.find?_append]
  have : l.find? (fun y => y.who == x.who) = none := by
    simp only [List.find?_eq_none]; intro y hy; simpa using h y hy
  rw [this]
  simp

theorem findSend_some {s : St} {w : Who} {p : Phase} {x : Snd} (h : findSend s w p = some x) :
    x ∈ s.sends ∧ x.who = w ∧ x.phase = p := by
  have h1 := List.mem_of_find?_eq_some h
  have h2 := List.find?_some h
  simp only [Bool.and_eq_true, beq_iff_eq] at h2
  exact ⟨h1, h2.1, h2.2⟩

/-! ## the invariant

* `whoNodup`, `writerSnd`, `directHanded` — one send per goroutine;
* `queued`, `qNodup`, `readerQ` — who is in the `inFlightM` queue;
* `excl`   — the reader inside its clearing `SetReadDeadline` and a sender inside its arming
             `SetReadDeadline` exclude each other (both hold `inFlightM`);
* `eq`     — counter + pending `inFlight++` in the queue = registered items + the item the reader
             has unregistered but not yet counted down;
* `fifo`   — when the queued reader's turn comes the counter is positive (FIFO hand-off);
* `armPos` — a sender is inside the arming call only while the counter is positive;
* `i1`     — deadline set ⇒ counter positive, or the reader is about to clear it;
* `i2`     — counter positive ⇒ deadline set (and not being cleared), or some send is on its way.
The counter is a `uint32`: the last five are stated for `Live` states (not failed, fewer than 2^32
ids allocated). -/

def Live (s : St) : Prop := s.done = false ∧ s.nextId < uint32

theorem not_live {s : St} (hd : s.done = true) : ¬ Live s := fun hl => by
  rw [hl.1] at hd; cases hd

theorem Live.pred {s s' : St} (hl : Live s') (hd : s'.done = s.done)
    (hn : s'.nextId = s.nextId + 1) : Live s :=
  ⟨hd ▸ hl.1, Nat.lt_of_succ_lt (show s.nextId + 1 < uint32 from hn ▸ hl.2)⟩

structure GD (s : St) : Prop where
  whoNodup : (s.sends.map (·.who)).Nodup
  writerSnd : ∀ x ∈ s.sends, x.who = .writer → s.writerBusy = true
  directHanded : ∀ x ∈ s.sends, ∀ c, x.who = .direct c → c ∈ s.handed
  queued : ∀ w, MW.sender w ∈ s.mWait →
    phaseOf s.sends w = some .addWait ∨ phaseOf s.sends w = some .armWait
  qNodup : s.mWait.Nodup
  readerQ : MW.reader ∈ s.mWait → s.reader.dw = 1
  excl : s.reader.isClearing = true → ∀ x ∈ s.sends, x.phase ≠ .arm
  bound : s.sent.length + s.reader.dw ≤ s.nextId
  eq : Live s → s.inFlight + cntQ s.sends s.mWait = s.sent.length + s.reader.dw
  fifo : Live s → ∀ l1 l2, s.mWait = l1 ++ MW.reader :: l2 → 1 ≤ s.inFlight + cntQ s.sends l1
  armPos : Live s → ∀ x ∈ s.sends, x.phase = .arm → 0 < s.inFlight
  i1 : Live s → s.armed = true → 0 < s.inFlight ∨ s.reader.isClearing = true
  i2 : Live s → 0 < s.inFlight → (s.armed = true ∧ s.reader.isClearing = false) ∨ s.sends ≠ []

theorem GD.reader_not_queued {s : St} (h : GD s) (hdw : s.reader.dw = 0) : MW.reader ∉ s.mWait :=
  fun hq => by have := h.readerQ hq; omega

theorem GD.head_not_queued {s : St} (h : GD s) {e : MW} {rest : List MW} (hq : s.mWait = e :: rest) :
    e ∉ rest := (List.nodup_cons.1 (hq ▸ h.qNodup)).1

theorem not_queued_of_phase {s : St} (h : GD s) {x : Snd} {p : Phase} (hx : x ∈ s.sends)
    (hxp : x.phase = p) (h1 : p ≠ .addWait) (h2 : p ≠ .armWait) : MW.sender x.who ∉ s.mWait := by
  intro hq
  have hp := phaseOf_of_mem h.whoNodup hx
  rw [hxp] at hp
  rcases h.queued _ hq with e | e <;> rw [hp] at e <;> injection e with e
  · exact h1 e
  · exact h2 e

theorem not_queued_of_findSend {s : St} {w : Who} {p : Phase} {x : Snd} (h : GD s)
    (hf : findSend s w p = some x) (h1 : p ≠ .addWait) (h2 : p ≠ .armWait) :
    MW.sender w ∉ s.mWait := by
  obtain ⟨hx, hxw, hxp⟩ := findSend_some hf
  exact hxw ▸ not_queued_of_phase h hx hxp h1 h2

theorem GD.no_direct {s : St} (h : GD s) {c : Nat} (hc : c ∉ s.handed) :
    ∀ x ∈ s.sends, x.who ≠ .direct c := fun x hx hw => hc (h.directHanded x hx c hw)

theorem GD.arm_who_ne {s : St} (h : GD s) {x y : Snd} (hx : x ∈ s.sends) (hxp : x.phase ≠ .arm)
    (hy : y ∈ s.sends) (hp : y.phase = .arm) : y.who ≠ x.who :=
  fun e => hxp (eq_of_nodup_map (·.who) h.whoNodup hy hx e ▸ hp)

/-- the part of `GD` that does not depend on the connection being alive -/
structure GU (s : St) : Prop where
  whoNodup : (s.sends.map (·.who)).Nodup
  writerSnd : ∀ x ∈ s.sends, x.who = .writer → s.writerBusy = true
  directHanded : ∀ x ∈ s.sends, ∀ c, x.who = .direct c → c ∈ s.handed
  queued : ∀ w, MW.sender w ∈ s.mWait →
    phaseOf s.sends w = some .addWait ∨ phaseOf s.sends w = some .armWait
  qNodup : s.mWait.Nodup
  readerQ : MW.reader ∈ s.mWait → s.reader.dw = 1
  excl : s.reader.isClearing = true → ∀ x ∈ s.sends, x.phase ≠ .arm
  bound : s.sent.length + s.reader.dw ≤ s.nextId

theorem GD.gu {s : St} (h : GD s) : GU s := { h with }

theorem gd_of_done {s : St} (hd : s.done = true) (h : GU s) : GD s :=
  { h with
    eq := fun hl => absurd hl (not_live hd)
    fifo := fun hl => absurd hl (not_live hd)
    armPos := fun hl => absurd hl (not_live hd)
    i1 := fun hl => absurd hl (not_live hd)
    i2 := fun hl => absurd hl (not_live hd) }

theorem gd_hand {s : St} (h : GD s) (c : Nat) : GD { s with handed := s.handed ++ [c] } :=
  { h with directHanded := fun x hx c' hw => List.mem_append_left _ (h.directHanded x hx c' hw) }

theorem gd_spendId {s : St} (h : GD s) : GD { s with nextId := s.nextId + 1 } :=
  { h with
    bound := Nat.le_succ_of_le h.bound
    eq := fun hl => h.eq (hl.pred rfl rfl)
    fifo := fun hl => h.fifo (hl.pred rfl rfl)
    armPos := fun hl => h.armPos (hl.pred rfl rfl)
    i1 := fun hl => h.i1 (hl.pred rfl rfl)
    i2 := fun hl => h.i2 (hl.pred rfl rfl) }

theorem gd_mapW {s : St} (w : Who) (g : Snd → Snd) (h : GD s) (hg : ∀ y, (g y).who = y.who)
    (hnq : MW.sender w ∉ s.mWait)
    (harm : ∀ y, (g y).phase = .arm → s.reader.isClearing = false ∧ 0 < s.inFlight) :
    GD { s with sends := s.sends.map (fun y => if y.who == w then g y else y) } := by
  have hg' := who_ite w g hg
  have hph : ∀ w', MW.sender w' ∈ s.mWait →
      phaseOf (s.sends.map (fun y => if y.who == w then g y else y)) w' = phaseOf s.sends w' :=
    fun w' hw' => phaseOf_map_ne _ _ _ g hg (fun e => hnq (e ▸ hw'))
  exact { h with
    whoNodup := by rw [map_who_map s.sends _ hg']; exact h.whoNodup
    writerSnd := fun x hx hw => by
      obtain ⟨y, hy, rfl⟩ := List.mem_map.1 hx
      rw [hg' y] at hw; exact h.writerSnd y hy hw
    directHanded := fun x hx c hw => by
      obtain ⟨y, hy, rfl⟩ := List.mem_map.1 hx
      rw [hg' y] at hw; exact h.directHanded y hy c hw
    queued := fun w' hw' => by rw [hph w' hw']; exact h.queued w' hw'
    excl := fun hc x hx hp => by
      obtain ⟨y, hy, rfl⟩ := List.mem_map.1 hx
      split at hp
      · cases hc.symm.trans (harm y hp).1
      · exact h.excl hc y hy hp
    eq := fun hl => by rw [cntQ_congr hph]; exact h.eq hl
    fifo := fun hl l1 l2 hq => by
      rw [cntQ_congr (fun w' hw' => hph w' (mem_of_mem_left hq hw'))]; exact h.fifo hl l1 l2 hq
    armPos := fun hl x hx hp => by
      obtain ⟨y, hy, rfl⟩ := List.mem_map.1 hx
      split at hp
      · exact (harm y hp).2
      · exact h.armPos hl y hy hp
    i2 := fun hl hp => by
      rcases h.i2 hl hp with h2 | h2
      · exact Or.inl h2
      · refine Or.inr ?_
        show s.sends.map _ ≠ []
        intro e; exact h2 (List.map_eq_nil_iff.1 e) }

theorem gd_filterW {s : St} (w : Who) (h : GD s) (hnq : MW.sender w ∉ s.mWait)
    (hi2 : Live s → 0 < s.inFlight → s.armed = true ∧ s.reader.isClearing = false) :
    GD { s with sends := s.sends.filter (fun x => x.who != w) } := by
  have hph : ∀ w', MW.sender w' ∈ s.mWait →
      phaseOf (s.sends.filter (fun x => x.who != w)) w' = phaseOf s.sends w' :=
    fun w' hw' => phaseOf_filter_ne _ _ _ (fun e => hnq (e ▸ hw'))
  exact { h with
    whoNodup := (List.filter_sublist.map _).nodup h.whoNodup
    writerSnd := fun x hx => h.writerSnd x (List.mem_filter.1 hx).1
    directHanded := fun x hx => h.directHanded x (List.mem_filter.1 hx).1
    queued := fun w' hw' => by rw [hph w' hw']; exact h.queued w' hw'
    excl := fun hc x hx => h.excl hc x (List.mem_filter.1 hx).1
    eq := fun hl => by rw [cntQ_congr hph]; exact h.eq hl
    fifo := fun hl l1 l2 hq => by
      rw [cntQ_congr (fun w' hw' => hph w' (mem_of_mem_left hq hw'))]; exact h.fifo hl l1 l2 hq
    armPos := fun hl x hx => h.armPos hl x (List.mem_filter.1 hx).1
    i2 := fun hl hp => Or.inl (hi2 hl hp) }

theorem gd_popNoAdd {s : St} {e : MW} {rest : List MW} (h : GD s) (hq : s.mWait = e :: rest)
    (he : qAdd s.sends e = false) : GD { s with mWait := rest } := by
  have hsub : ∀ x, x ∈ rest → x ∈ s.mWait := fun x hx => by rw [hq]; exact List.mem_cons_of_mem _ hx
  exact { h with
    queued := fun w hw => h.queued w (hsub _ hw)
    qNodup := by have := h.qNodup; rw [hq] at this; exact (List.nodup_cons.1 this).2
    readerQ := fun hr => h.readerQ (hsub _ hr)
    eq := fun hl => by
      have := h.eq hl
      rw [hq, cntQ_cons, he] at this
      show s.inFlight + cntQ s.sends rest = _
      simpa using this
    fifo := fun hl l1 l2 hr => by
      have := h.fifo hl (e :: l1) l2 (by rw [hq, show rest = l1 ++ MW.reader :: l2 from hr]; rfl)
      rw [cntQ_cons, he] at this
      show 1 ≤ s.inFlight + cntQ s.sends l1
      simpa using this }

theorem gd_enqueue {s : St} {e : MW} (h : GD s) (he : e ∉ s.mWait)
    (hsnd : ∀ w, e = .sender w → phaseOf s.sends w = some .armWait)
    (hrd : e = .reader → s.reader.dw = 1) : GD { s with mWait := s.mWait ++ [e] } := by
  have hq0 : qAdd s.sends e = false := by
    cases e with
    | reader => rfl
    | sender w => simp only [qAdd, hsnd w rfl]; rfl
  exact { h with
    queued := fun w hw => by
      rcases List.mem_append.1 hw with hw | hw
      · exact h.queued w hw
      · exact Or.inr (hsnd w (List.mem_singleton.1 hw).symm)
    qNodup := nodup_snoc h.qNodup he
    readerQ := fun hr => by
      rcases List.mem_append.1 hr with hr | hr
      · exact h.readerQ hr
      · exact hrd (List.mem_singleton.1 hr).symm
    eq := fun hl => by
      have := h.eq hl
      rw [cntQ_append, cntQ_cons, cntQ_nil, hq0]
      simpa using this
    fifo := fun hl l1 l2 hq => by
      rcases split_snoc _ _ _ _ _ hq with ⟨e1, e2, _⟩ | ⟨l2', _, hq'⟩
      · have := h.eq hl
        have := hrd e1
        show 1 ≤ s.inFlight + cntQ s.sends l1
        rw [e2]; omega
      · exact h.fifo hl l1 l2' hq' }

/-- `startSend` as far as the queue: the item is registered and its sender waits for `inFlightM`
(both sides of `eq` grow by one). -/
theorem gd_regQueue {s : St} (w : Who) (it : Item) (h : GD s)
    (hw : ∀ x ∈ s.sends, x.who ≠ w) (hwb : w = .writer → s.writerBusy = true)
    (hdh : ∀ c, w = .direct c → c ∈ s.handed) :
    GD { regSend s w it with mWait := s.mWait ++ [.sender w] } := by
  have hnq : MW.sender w ∉ s.mWait := fun hq => by
    rcases h.queued w hq with e | e <;> (rw [phaseOf_none hw] at e; cases e)
  have hph : ∀ w', MW.sender w' ∈ s.mWait →
      phaseOf (s.sends ++ [newSnd s w it]) w' = phaseOf s.sends w' :=
    fun w' hw' => phaseOf_append_ne _ _ _ (fun e => hnq ((show w' = w from e) ▸ hw'))
  have hnew : phaseOf (s.sends ++ [newSnd s w it]) w = some .addWait :=
    phaseOf_append_new s.sends (newSnd s w it) hw
  exact {
    whoNodup := by
      show ((s.sends ++ [_]).map (fun x : Snd => x.who)).Nodup
      rw [List.map_append]
      refine nodup_snoc h.whoNodup (fun ha => ?_)
      obtain ⟨x, hx, e⟩ := List.mem_map.1 ha
      exact hw x hx e
    writerSnd := List.forall_mem_append.2 ⟨h.writerSnd, List.forall_mem_singleton.2 hwb⟩
    directHanded := List.forall_mem_append.2 ⟨h.directHanded, List.forall_mem_singleton.2 hdh⟩
    queued := fun w' hw' => by
      rcases List.mem_append.1 hw' with hw' | hw'
      · show phaseOf (s.sends ++ [_]) w' = _ ∨ phaseOf (s.sends ++ [_]) w' = _
        rw [hph w' hw']; exact h.queued w' hw'
      · cases List.mem_singleton.1 hw'
        exact Or.inl hnew
    qNodup := nodup_snoc h.qNodup hnq
    readerQ := fun hr => by
      rcases List.mem_append.1 hr with hr | hr
      · exact h.readerQ hr
      · simp at hr
    excl := fun hc => List.forall_mem_append.2 ⟨h.excl hc, List.forall_mem_singleton.2 nofun⟩
    bound := by
      have := h.bound
      show (s.sent ++ [(s.nextId + 1, it)]).length + s.reader.dw ≤ s.nextId + 1
      simp only [List.length_append, List.length_singleton]; omega
    eq := fun hl => by
      have := h.eq (hl.pred rfl rfl)
      show s.inFlight + cntQ (s.sends ++ [_]) (s.mWait ++ [MW.sender w]) =
        (s.sent ++ [(s.nextId + 1, it)]).length + s.reader.dw
      rw [cntQ_append, cntQ_congr hph, cntQ_cons, cntQ_nil]
      simp only [qAdd, hnew, beq_self_eq_true, if_true, List.length_append, List.length_singleton]
      omega
    fifo := fun hl l1 l2 hq => by
      rcases split_snoc _ _ _ _ _ hq with ⟨e, _, _⟩ | ⟨l2', _, hq'⟩
      · cases e
      · show 1 ≤ s.inFlight + cntQ (s.sends ++ [_]) l1
        rw [cntQ_congr (fun w' hw' => hph w' (mem_of_mem_left hq' hw'))]
        exact h.fifo (hl.pred rfl rfl) l1 l2' hq'
    armPos := fun hl =>
      List.forall_mem_append.2 ⟨h.armPos (hl.pred rfl rfl), List.forall_mem_singleton.2 nofun⟩
    i1 := fun hl => h.i1 (hl.pred rfl rfl)
    i2 := fun _ _ => Or.inr (by
      show s.sends ++ [_] ≠ []
      simp) }

/-- The `inFlight++` of `senderAdd`, for a sender anywhere in the queue: `wakeM` serves the head,
`startSend` a sender that finds `inFlightM` free (see `gd_takeAdd`). -/
theorem gd_count {s : St} {n : Nat} {w : Who} {l1 l2 : List MW} (h : GD s)
    (hq : s.mWait = l1 ++ MW.sender w :: l2) (hp : phaseOf s.sends w = some .addWait)
    (hn : n = (s.inFlight + 1) % uint32) : GD { s with mWait := l1 ++ l2, inFlight := n } := by
  have hsub : (l1 ++ l2).Sublist s.mWait :=
    hq ▸ (List.Sublist.refl l1).append (List.sublist_cons_self _ l2)
  have hcq : cntQ s.sends s.mWait = cntQ s.sends (l1 ++ l2) + 1 := by
    rw [hq, cntQ_append, cntQ_cons, cntQ_append]
    simp only [qAdd, hp, beq_self_eq_true, if_true]; omega
  -- no wrap-around: the counter stays below the number of ids allocated
  have hcnt : Live s → n = s.inFlight + 1 := fun hl => by
    have := h.eq hl
    have := h.bound
    have := hl.2
    rw [hn]; exact Nat.mod_eq_of_lt (by omega)
  have hpos : Live s → 0 < n := fun hl => hcnt hl ▸ Nat.succ_pos _
  exact { h with
    queued := fun w' hw' => h.queued w' (hsub.subset hw')
    qNodup := hsub.nodup h.qNodup
    readerQ := fun hr => h.readerQ (hsub.subset hr)
    eq := fun hl => by
      have := h.eq hl
      have := hcnt hl
      show n + cntQ s.sends (l1 ++ l2) = s.sent.length + s.reader.dw
      omega
    fifo := fun hl _ _ _ => Nat.le_add_right_of_le (hpos hl)
    armPos := fun hl _ _ _ => hpos hl
    i1 := fun hl _ => Or.inl (hpos hl)
    i2 := fun _ _ => Or.inr (by
      obtain ⟨x, hx, _⟩ := phaseOf_some_mem hp
      exact List.ne_nil_of_mem hx) }

/-- (the sender stands at the head of the queue when `inFlightM` is handed on, at its end when it
has only just arrived and need not wait; `q` with `hq'` because the queue left is then `s.mWait`
itself, not syntactically `s.mWait ++ []`) -/
theorem gd_takeAdd {s : St} {n : Nat} {w : Who} {l1 l2 q : List MW} (h : GD s)
    (hq : s.mWait = l1 ++ MW.sender w :: l2) (hq' : q = l1 ++ l2)
    (hp : phaseOf s.sends w = some .addWait) (hn : n = (s.inFlight + 1) % uint32) :
    GD (senderAddN { s with mWait := q } n w) := by
  subst hq'
  have hnd : (MW.sender w :: (l1 ++ l2)).Nodup := List.perm_middle.nodup_iff.1 (hq ▸ h.qNodup)
  have h1 := gd_mapW w (sndAfterAdd s) (gd_count h hq hp hn) (fun _ => rfl) (List.nodup_cons.1 hnd).1
    (fun y hy => by
      have hy : (if s.writeM.isNone then Phase.write else Phase.lockWait) = .arm := hy
      split at hy
      · cases hy
      · cases hy)
  -- `senderAddN` also sets `writeM`, which `GD` does not read (idiom: header of `Lemmas/Conn.lean`)
  exact { h1 with }

theorem gd_erase {s : St} {id : Nat} {it : Item} (f : Frame) (h : GD s) (hr : s.reader = .reading)
    (hnd : (s.sent.map (·.1)).Nodup) (hl : lookupSent s id = some it) :
    GD { eraseSent s id with reader := .downWait id it f } := by
  have hlen := length_erase s.sent id (id, it) hnd (lookupSent_some hl)
  have hb := h.bound
  rw [hr] at hb
  have hrq := h.reader_not_queued (by rw [hr]; rfl)
  exact { h with
    readerQ := fun _ => rfl
    excl := fun hc => by cases hc
    bound := by
      show (s.sent.filter (fun p => p.1 != id)).length + 1 ≤ s.nextId
      rw [hlen]; exact hb
    eq := fun hl' => by
      have := h.eq hl'
      rw [hr] at this
      show s.inFlight + cntQ s.sends s.mWait = (s.sent.filter (fun p => p.1 != id)).length + 1
      rw [hlen]; exact this
    fifo := fun _ _ _ hq => absurd (mem_of_eq_middle hq) hrq
    i1 := fun hl' ha => by
      rcases h.i1 hl' ha with h1 | h1
      · exact Or.inl h1
      · rw [hr] at h1; cases h1
    i2 := fun hl' hp => by
      rcases h.i2 hl' hp with h2 | h2
      · exact Or.inl ⟨h2.1, rfl⟩
      · exact Or.inr h2 }

theorem gd_cleared {s : St} {id : Nat} {it : Item} {f : Frame} (h : GD s)
    (hrd : s.reader = .clearing id it f) : GD { s with armed := false, reader := .reading } :=
  { h with
    readerQ := fun hq => absurd hq (h.reader_not_queued (by rw [hrd]; rfl))
    excl := fun hc => by cases hc
    bound := by have := h.bound; rw [hrd] at this; exact this
    eq := fun hl => by have := h.eq hl; rw [hrd] at this; exact this
    i1 := fun _ ha => by cases ha
    i2 := fun hl hp => by
      rcases h.i2 hl hp with h2 | h2
      · have := h2.2; rw [hrd] at this; cases this
      · exact Or.inr h2 }

theorem gu_failConn {s : St} (h : GU s) : GU (failConn s) := by
  rw [failConn_eq]
  split
  · exact h
  · exact { h with
      readerQ := fun hr => by
        rw [Reader.dw_afterFail]; exact h.readerQ hr
      excl := fun hc => by
        have hc : s.reader.afterFail.isClearing = true := hc
        rw [Reader.isClearing_afterFail] at hc; exact h.excl hc
      bound := by
        show 0 + s.reader.afterFail.dw ≤ s.nextId
        rw [Reader.dw_afterFail]; have := h.bound; omega }

theorem gd_failConn' {s : St} (h : GU s) : GD (failConn s) :=
  gd_of_done (failed_failConn _).done (gu_failConn h)

theorem gd_failConn {s : St} (h : GD s) : GD (failConn s) := gd_failConn' h.gu

theorem gd_readerFail {s : St} (h : GU { s with reader := .reading }) : GD (readerFail s) :=
  -- exited or parked in `Read`, the reader has the same `dw` and `isClearing`, all that `GU` reads of it
  readerFail_eq s ▸ gd_failConn' (s := { s with reader := .exited }) { h with }

theorem gu_eraseSent {s : St} (id : Nat) (h : GU s) : GU (eraseSent s id) :=
  { h with bound := Nat.le_trans (Nat.add_le_add_right (List.length_filter_le _ _) _) h.bound }

theorem gd_sendFailed {s : St} (snd : Snd) (h : GD s) : GD (sendFailed s snd) :=
  sendFailed_cases (Q := GD) s snd
    (fun _ _ => gd_of_done (failed_failConn s).done { gu_eraseSent snd.id (gu_failConn h.gu) with })
    (fun _ => gd_failConn h)

theorem gd_finishFrame {s : St} {id : Nat} {it : Item} {f : Frame}
    (h : GD { s with reader := .reading }) (hf : f ≠ .badHeader) : GD (finishFrame s id it f) := by
  -- exited: to `GD` the same as parked in `Read`, see `gd_readerFail`
  have hn : GD { s with reader := readerNext s } :=
    readerNext_cases (Q := fun r => GD { s with reader := r }) s (fun _ => { h with }) (fun _ => h)
  exact finishFrame_cases (Q := GD) s id it f (fun _ => { hn with }) (fun e => absurd e hf)
    (fun _ => { hn with })
    (fun _ => gd_readerFail (s := { s with delivered := s.delivered ++ frameDlv id it f }) { h.gu with })

theorem gd_startSend {s : St} (w : Who) (it : Item) (h : GD s)
    (hw : ∀ x ∈ s.sends, x.who ≠ w) (hwb : w = .writer → s.writerBusy = true)
    (hdh : ∀ c, w = .direct c → c ∈ s.handed) : GD (startSend s w it) := by
  have h1 := gd_regQueue w it h hw hwb hdh
  rw [startSend_eq]
  split
  · exact h1
  · -- `inFlightM` is free: as if the sender had queued up and been served at once
    exact gd_takeAdd h1 rfl (List.append_nil _).symm (phaseOf_append_new s.sends (newSnd s w it) hw)
      rfl

theorem gd_startDirect {s : St} {c : Nat} (h : GD s) (hs : ∀ x ∈ s.sends, x.who ≠ .direct c)
    (hc : c ∈ s.handed) : GD (startSend s (.direct c) (.single c)) :=
  gd_startSend _ _ h hs nofun (fun _ e => by cases e; exact hc)

theorem gd_writerLoop {s : St} (h : GD s) : GD (writerLoop s) := by
  refine writerLoop_ind (Q := GD) s h ?_ ?_ ?_
  · intro s' h; exact { h with }
  · intro s' h _ _
    exact { gd_spendId h with }
  · intro s' h hb _
    have hnb : s'.writerBusy = false := by
      rw [Bool.or_eq_false_iff] at hb; exact hb.2
    refine gd_startSend _ _ ?_ ?_ (fun _ => rfl) (fun c hc => by cases hc)
    · exact { h with writerSnd := fun _ _ _ => rfl }
    · intro x hx hw
      have := h.writerSnd x hx hw
      rw [hnb] at this; cases this

theorem gd_finishSend {s : St} (w : Who) (h : GD s) (hnq : MW.sender w ∉ s.mWait)
    (hi2 : Live s → 0 < s.inFlight → s.armed = true ∧ s.reader.isClearing = false) :
    GD (finishSend s w) := by
  have h1 := gd_filterW w h hnq hi2
  refine finishSend_cases (Q := GD) s w (fun hw => ?_) (fun _ => h1)
  refine gd_writerLoop { h1 with writerSnd := ?_ }
  intro x hx hxw
  have := (List.mem_filter.1 hx).2
  rw [hxw, hw] at this; simp at this

theorem gd_releaseWriteM {s : St} (h : GD s) : GD (releaseWriteM s) := by
  refine releaseWriteM_cases (Q := GD) s (fun x hx => ?_) { h with }
  have hxm : x ∈ s.sends := List.mem_of_find?_eq_some hx
  have hxp : x.phase = .lockWait := by simpa using List.find?_some hx
  have := gd_mapW x.who (fun y => { y with phase := .write }) h (fun _ => rfl)
    (not_queued_of_phase h hxm hxp nofun nofun) (fun y hp => by cases hp)
  exact { this with }

theorem findSend_releaseWriteM {s : St} {w : Who} {x : Snd} (hf : findSend s w .write = some x) :
    ∃ x' ∈ (releaseWriteM s).sends, x'.who = w ∧ x'.id = x.id ∧ x'.phase = .write := by
  obtain ⟨hx, hxw, hxp⟩ := findSend_some hf
  refine releaseWriteM_cases (Q := fun s' => ∃ x' ∈ s'.sends, x'.who = w ∧ x'.id = x.id ∧ x'.phase = .write)
    s (fun y _ => ?_) ⟨x, hx, hxw, rfl, hxp⟩
  refine ⟨_, List.mem_map.2 ⟨x, hx, rfl⟩, ?_, ?_, ?_⟩
  · exact (who_ite _ (fun y => { y with phase := .write }) (fun _ => rfl) x).trans hxw
  · split <;> rfl
  · split
    · rfl
    · exact hxp

theorem mWait_releaseWriteM (s : St) : (releaseWriteM s).mWait = s.mWait :=
  releaseWriteM_cases (Q := fun s' => s'.mWait = s.mWait) s (fun _ _ => rfl) rfl

theorem gd_queueArm {s : St} (w : Who) (h : GD s) {x : Snd} (hx : x ∈ s.sends) (hxw : x.who = w)
    (hxp : x.phase = .write) :
    GD { setPhase s w .armWait with mWait := s.mWait ++ [.sender w] } := by
  have hnq : MW.sender w ∉ s.mWait := hxw ▸ not_queued_of_phase h hx hxp nofun nofun
  have h1 := gd_mapW w (fun y => { y with phase := .armWait }) h (fun _ => rfl) hnq
    (fun y hp => by cases hp)
  have hnew := phaseOf_setPhase s.sends w .armWait hx hxw
  exact gd_enqueue h1 hnq (fun w' e => by cases e; exact hnew) nofun

theorem gd_senderAtM {s : St} (w : Who) (h : GD s) (hm : mHeld s = false)
    (hnq : MW.sender w ∉ s.mWait) : GD (senderAtM s w) :=
  senderAtM_cases (Q := GD) s w (fun h0 => gd_finishSend w h hnq (fun _ hp => absurd h0 (Nat.ne_of_gt hp)))
    (fun h0 => gd_mapW w (fun y => { y with phase := .arm }) h (fun _ => rfl) hnq
      (fun _ _ => ⟨(not_mHeld hm).2, Nat.pos_of_ne_zero h0⟩))

/-- (`h`: the state as if the reader were still waiting for `inFlightM`) -/
theorem gd_readerAtN {s : St} {n id : Nat} {it : Item} {f : Frame}
    (h : GD { s with reader := .downWait id it f }) (hrq : MW.reader ∉ s.mWait)
    (ha : ∀ x ∈ s.sends, x.phase ≠ .arm) (hpos : Live s → 1 ≤ s.inFlight)
    (hf : f ≠ .badHeader) (hn : n = (s.inFlight + uint32 - 1) % uint32) :
    GD (readerAtN s n id it f) := by
  have hb : s.sent.length + 1 ≤ s.nextId := h.bound
  have hcnt : Live s → n + 1 = s.inFlight ∧ s.inFlight + cntQ s.sends s.mWait = s.sent.length + 1 :=
    fun hl => by
      have h1 : s.inFlight + cntQ s.sends s.mWait = s.sent.length + 1 := h.eq hl
      have := hl.2
      have := hpos hl
      rw [hn, pred_mod (hpos hl) (by omega)]
      exact ⟨by omega, h1⟩
  -- counted down, with any reader `r` that holds nothing in the queue's eyes and clears iff `n = 0`
  have key : ∀ r : Reader, r.dw = 0 → (r.isClearing = true ↔ n = 0) →
      GD { s with inFlight := n, reader := r } := fun r hdw hclr =>
    { h with
      readerQ := fun hr => absurd hr hrq
      excl := fun _ => ha
      bound := by show s.sent.length + r.dw ≤ s.nextId; omega
      eq := fun hl => by
        have := hcnt hl
        show n + cntQ s.sends s.mWait = s.sent.length + r.dw
        omega
      fifo := fun _ _ _ hq => absurd (mem_of_eq_middle hq) hrq
      armPos := fun _ x hx hp => absurd hp (ha x hx)
      i1 := fun _ _ => by
        by_cases h0 : n = 0
        · exact Or.inr (hclr.2 h0)
        · exact Or.inl (Nat.pos_of_ne_zero h0)
      i2 := fun hl hp => by
        have hp : 0 < n := hp
        have h1 := (hcnt hl).1
        have hnc : r.isClearing = false := by
          cases hc : r.isClearing
          · rfl
          · have := hclr.1 hc; omega
        rcases h.i2 hl (by show 0 < s.inFlight; omega) with h2 | h2
        · exact Or.inl ⟨h2.1, hnc⟩
        · exact Or.inr h2 }
  simp only [readerAtN]
  split
  · rename_i h0
    exact key (.clearing id it f) rfl ⟨fun _ => h0, fun _ => rfl⟩
  · rename_i h0
    exact gd_finishFrame (key .reading rfl ⟨nofun, fun e => absurd e h0⟩) hf

theorem gd_releaseM {s : St} (hg : GR s) (h : GD s) : GD (releaseM s) := by
  refine (wakeM_ind (Q := fun s => GR s ∧ GD s) _ s ⟨hg, h⟩ ?_ ?_ ?_ ?_).2
  · intro s w rest ⟨hg, h⟩ hm hq hp
    refine ⟨gr_senderAdd w (gr_irr hg rest _), ?_⟩
    exact gd_takeAdd (l1 := []) h hq rfl hp rfl
  · intro s w rest ⟨hg, h⟩ hm hq hp
    have hq0 : qAdd s.sends (.sender w) = false := by simp only [qAdd, hp]; rfl
    exact ⟨gr_senderAtM w (gr_irr hg rest _),
      gd_senderAtM w (gd_popNoAdd h hq hq0) hm (h.head_not_queued hq)⟩
  · intro s id it f rest ⟨hg, h⟩ hm hq hr
    obtain ⟨h0, hf, hw⟩ := hg.holding (by rw [hr]; rfl)
    have h2 : GD { s with mWait := rest, reader := s.reader } := gd_popNoAdd h hq rfl
    rw [hr] at h2
    refine ⟨gr_readerAtM (s := { s with mWait := rest }) { h0 with } hf hw, ?_⟩
    rw [readerAtM_eq]
    refine gd_readerAtN h2 (h.head_not_queued hq) (not_mHeld hm).1 ?_ hf rfl
    -- FIFO: by the time the reader is handed the mutex everything queued before it has been counted
    intro hl
    have := h.fifo hl [] rest hq
    simpa [cntQ_nil] using this
  · intro s e rest ⟨hg, h⟩ hm hq he
    exact ⟨gr_irr hg rest _, gd_popNoAdd h hq he⟩

/-- between two events nobody waits for a free `inFlightM` -/
def Rest (s : St) : Prop := mHeld s = false → s.mWait = []

theorem hasArm_congr {l l' : List Snd} (h : ∀ y, y.phase = .arm → (y ∈ l' ↔ y ∈ l)) :
    hasArm l' = hasArm l := by
  rw [Bool.eq_iff_iff, hasArm_iff, hasArm_iff]
  exact ⟨fun ⟨y, hy, hp⟩ => ⟨y, (h y hp).1 hy, hp⟩, fun ⟨y, hy, hp⟩ => ⟨y, (h y hp).2 hy, hp⟩⟩

theorem mHeld_mapW {s : St} (h : GD s) (w : Who) (g : Snd → Snd) {x : Snd} (hx : x ∈ s.sends)
    (hxw : x.who = w) (hxp : x.phase ≠ .arm) (hgp : (g x).phase ≠ .arm) :
    mHeld { s with sends := s.sends.map (fun y => if y.who == w then g y else y) } = mHeld s := by
  subst hxw
  refine mHeld_congr (hasArm_congr fun y hp => ?_) rfl
  rw [List.mem_map]
  constructor
  · rintro ⟨y0, hy0, rfl⟩
    by_cases hw : y0.who = x.who
    · cases eq_of_nodup_map (·.who) h.whoNodup hy0 hx hw
      rw [if_pos (by simp)] at hp
      exact absurd hp hgp
    · rw [if_neg (by simpa using hw)]
      exact hy0
  · intro hy
    exact ⟨y, hy, if_neg (by simpa using h.arm_who_ne hx hxp hy hp)⟩

theorem mHeld_releaseWriteM {s : St} (h : GD s) : mHeld (releaseWriteM s) = mHeld s := by
  refine releaseWriteM_cases (Q := fun s' => mHeld s' = mHeld s) s (fun x hx => ?_) rfl
  have hxp : x.phase = .lockWait := by simpa using List.find?_some hx
  exact mHeld_mapW h x.who (fun y => { y with phase := .write }) (List.mem_of_find?_eq_some hx) rfl
    (by rw [hxp]; simp) (by simp)

theorem mHeld_regSend_mono (s : St) (w : Who) (it : Item) (h : mHeld s = true) :
    mHeld (regSend s w it) = true := by
  rw [mHeld_eq] at h ⊢
  rw [Bool.or_eq_true] at h ⊢
  rcases h with h | h
  · left
    rw [hasArm_iff] at h ⊢
    obtain ⟨x, hx, hp⟩ := h
    exact ⟨x, List.mem_append_left _ hx, hp⟩
  · exact Or.inr h

/-- The queue of `inFlightM` from `a` to `s`, across moves that do not release it: whoever holds it
still does, and while it is free nobody has joined the queue. Such moves preserve `Rest`. -/
structure QKeep (a s : St) : Prop where
  held : mHeld a = true → mHeld s = true
  wait : mHeld s = false → s.mWait = a.mWait

theorem QKeep.refl (s : St) : QKeep s s := ⟨fun h => h, fun _ => rfl⟩

theorem QKeep.upd {a s s' : St} (h : QKeep a s) (e1 : mHeld s' = mHeld s) (e2 : s'.mWait = s.mWait) :
    QKeep a s' := ⟨fun ha => e1 ▸ h.held ha, fun hm => e2 ▸ h.wait (e1 ▸ hm)⟩

theorem QKeep.free {a s : St} (h : QKeep a s) (hm : mHeld s = false) : mHeld a = false := by
  cases ha : mHeld a
  · rfl
  · rw [h.held ha] at hm; cases hm

theorem Rest.of_qkeep {a s : St} (hr : Rest a) (h : QKeep a s) : Rest s := fun hm => by
  rw [h.wait hm]; exact hr (h.free hm)

theorem qkeep_startSend {a s : St} (w : Who) (it : Item) (h : QKeep a s) :
    QKeep a (startSend s w it) := by
  rw [startSend_eq]
  split
  · rename_i hm
    exact ⟨fun _ => hm, fun hf => by rw [show mHeld (regSend s w it) = false from hf] at hm; cases hm⟩
  · rename_i hm
    have hm : mHeld (regSend s w it) = false := by simpa using hm
    have hs : mHeld s = false := by
      cases hs : mHeld s
      · rfl
      · rw [mHeld_regSend_mono s w it hs] at hm; cases hm
    exact ⟨fun ha => (by rw [h.held ha] at hs; cases hs), fun _ => h.wait hs⟩

theorem qkeep_writerLoop {a s : St} (h : QKeep a s) : QKeep a (writerLoop s) := by
  refine writerLoop_ind (Q := QKeep a) s h ?_ ?_ ?_
  · intro s' h; exact h.upd rfl rfl
  · intro s' h _ _; exact h.upd rfl rfl
  · intro s' h _ _; exact qkeep_startSend _ _ (h.upd rfl rfl)

theorem mWait_finishSend_of_free (s : St) (w : Who) (hm : mHeld (finishSend s w) = false) :
    (finishSend s w).mWait = s.mWait :=
  finishSend_cases (Q := fun s' => mHeld s' = false → s'.mWait = s.mWait) s w
    (fun _ => (qkeep_writerLoop (.refl _)).wait) (fun _ _ => rfl) hm

/-- (a send that ends outside its arming call was not the holder of `inFlightM`) -/
theorem mHeld_finishSend_free {s : St} (h : GD s) (w : Who) {x : Snd} (hx : x ∈ s.sends)
    (hxw : x.who = w) (hxp : x.phase ≠ .arm) (hm : mHeld (finishSend s w) = false) :
    mHeld s = false := by
  have key : mHeld { s with sends := s.sends.filter (fun y => y.who != w) } = mHeld s := by
    refine mHeld_congr (hasArm_congr fun y hp => ?_) rfl
    rw [List.mem_filter]
    exact ⟨And.left, fun hy => ⟨hy, by simpa using hxw ▸ h.arm_who_ne hx hxp hy hp⟩⟩
  rw [← key]
  exact finishSend_cases (Q := fun s' => mHeld s' = false → mHeld { s with sends := _ } = false) s w
    (fun _ => (qkeep_writerLoop (.refl { s with sends := _, writerBusy := false })).free)
    (fun _ hm => hm) hm

theorem mWait_senderAtM_of_free (s : St) (w : Who) (hm : mHeld (senderAtM s w) = false) :
    (senderAtM s w).mWait = s.mWait :=
  senderAtM_cases (Q := fun s' => mHeld s' = false → s'.mWait = s.mWait) s w
    (fun _ => mWait_finishSend_of_free s w) (fun _ _ => rfl) hm

theorem mWait_readerAtM (s : St) (id : Nat) (it : Item) (f : Frame) :
    (readerAtM s id it f).mWait = s.mWait :=
  readerAtM_cases (Q := fun s' => s'.mWait = s.mWait) s id it f (fun _ => rfl)
    (fun n => finishFrame_cases (Q := fun s' => s'.mWait = s.mWait) { s with inFlight := n } id it f
      (fun _ => rfl) (fun _ => rfl) (fun _ => rfl) (fun _ => (failed_readerFail _).mWait))

theorem mWait_serve_of_free (s : St) (e : MW) (hm : mHeld (serve s e) = false) :
    (serve s e).mWait = s.mWait :=
  serve_cases (Q := fun s' => mHeld s' = false → s'.mWait = s.mWait) s e (fun _ _ _ _ => rfl)
    (fun w _ _ => mWait_senderAtM_of_free s w) (fun id it f _ _ _ => mWait_readerAtM s id it f)
    (fun _ _ => rfl) hm

theorem wakeM_of_held (n : Nat) {s : St} (h : mHeld s = true) : wakeM n s = s := by
  cases n with
  | zero => rfl
  | succ n => rw [wakeM_succ, if_pos h]

theorem rest_wakeM (n : Nat) (s : St) (hn : s.mWait.length < n) : Rest (wakeM n s) := by
  induction n generalizing s with
  | zero => omega
  | succ n ih =>
    rw [wakeM_succ]
    split
    · rename_i hm; intro h; rw [h] at hm; cases hm
    · split
      · rename_i hq; intro _; exact hq
      · rename_i e rest hq
        rw [hq] at hn
        -- the waiter served keeps `inFlightM` and the loop stops, or it leaves the queue as it found it
        cases hm : mHeld (serve { s with mWait := rest } e)
        · refine ih _ ?_
          rw [mWait_serve_of_free _ _ hm]
          exact Nat.lt_of_succ_lt_succ hn
        · rw [wakeM_of_held n hm]; intro h; rw [hm] at h; cases h

theorem rest_releaseM (s : St) : Rest (releaseM s) := rest_wakeM _ s (Nat.lt_succ_self _)

theorem gd_rest_readerFails {s : St} (h : GD s) (hr : Rest s) (hrd : s.reader = .reading) :
    GD (readerFail s) ∧ Rest (readerFail s) := by
  have h0 : GD { s with reader := .reading } := hrd ▸ h
  refine ⟨gd_readerFail h0.gu, ?_⟩
  refine hr.of_qkeep ((QKeep.refl s).upd ?_ (failed_readerFail s).mWait)
  exact mHeld_congr (congrArg hasArm (failed_readerFail s).sends) (by rw [hrd]; rfl)

theorem gd_rest_step {s s' : St} (hg : GR s) (h : GD s) (hr : Rest s) (hs : Step s s') :
    GD s' ∧ Rest s' := by
  -- `Rest` afterwards, three ways: `rest_releaseM` where the move ends in `releaseM` (armed, armErr, cleared,
  -- clearErr); `QKeep` (batched, direct, directClosing, readerFails, closed); by hand where the mover itself
  -- takes `inFlightM`, queues for it or ends its send (writeErr, wroteBusy, wrote, readBusy, read): the guard
  -- `hm` of the `Step` already says whether it is free, so the `held` half of `QKeep` is not worth proving
  cases hs with
  | refused c | gaveUp c => exact ⟨{ gd_hand h c with }, hr⟩
  | batched c poison =>
    exact ⟨gd_writerLoop { gd_hand h c with },
      hr.of_qkeep (qkeep_writerLoop ((QKeep.refl s).upd rfl rfl))⟩
  | direct c hc =>
    exact ⟨gd_startDirect (gd_hand h c) (h.no_direct hc) (by simp),
      hr.of_qkeep (qkeep_startSend _ _ ((QKeep.refl s).upd rfl rfl))⟩
  | directClosing c hc =>
    have hfl := failed_failConn { s with handed := s.handed ++ [c] }
    exact ⟨gd_startDirect (gd_failConn (gd_hand h c)) (fun x hx => h.no_direct hc x (hfl.sends ▸ hx))
        (by rw [hfl.handed]; simp),
      hr.of_qkeep (qkeep_startSend _ _ ((QKeep.refl s).upd hfl.mHeld hfl.mWait))⟩
  | unsendable c => exact ⟨{ gd_spendId (gd_hand h c) with }, hr⟩
  | cancel c => exact ⟨{ h with }, hr⟩
  | wrotePart => exact ⟨h, hr⟩
  | writeErr w x hf =>
    have hnq := not_queued_of_findSend h hf nofun nofun
    obtain ⟨x', hx', hx'w, _, hx'p⟩ := findSend_releaseWriteM hf
    have hfl := failed_sendFailed (releaseWriteM s) x
    have h2 := gd_sendFailed x (gd_releaseWriteM h)
    refine ⟨gd_finishSend w h2 ?_ (fun hl => absurd hl (not_live hfl.done)), ?_⟩
    · rw [hfl.mWait, mWait_releaseWriteM]; exact hnq
    · -- the send that ends was in its write: if `inFlightM` is free afterwards it was free before
      intro hm
      rw [mWait_finishSend_of_free _ _ hm, hfl.mWait, mWait_releaseWriteM]
      apply hr
      have := mHeld_finishSend_free h2 w (hfl.sends ▸ hx') hx'w (by rw [hx'p]; simp) hm
      rw [hfl.mHeld, mHeld_releaseWriteM h] at this
      exact this
  | wroteBusy w x hf hd hm =>
    obtain ⟨x', hx', hx'w, _, hx'p⟩ := findSend_releaseWriteM hf
    have h1 := gd_releaseWriteM h
    refine ⟨gd_queueArm w h1 hx' hx'w hx'p, ?_⟩
    -- `inFlightM` is still held, by whoever held it before
    intro hm'
    have e : mHeld { setPhase (releaseWriteM s) w .armWait with
        mWait := (releaseWriteM s).mWait ++ [.sender w] } = mHeld (releaseWriteM s) :=
      mHeld_mapW h1 w (fun y => { y with phase := .armWait }) hx' hx'w (by rw [hx'p]; simp) (by simp)
    rw [e, hm] at hm'; cases hm'
  | wrote w x hf hd hm =>
    have hnq := not_queued_of_findSend h hf nofun nofun
    refine ⟨gd_senderAtM w (gd_releaseWriteM h) hm (by rw [mWait_releaseWriteM]; exact hnq), ?_⟩
    intro hm'
    rw [mWait_senderAtM_of_free _ _ hm', mWait_releaseWriteM]
    apply hr
    rw [← mHeld_releaseWriteM h]; exact hm
  | armed w x hf hd =>
    obtain ⟨hx, hxw, hxp⟩ := findSend_some hf
    have hnq := not_queued_of_findSend h hf nofun nofun
    have hnc : s.reader.isClearing = false := by
      cases hc : s.reader.isClearing
      · rfl
      · exact absurd hxp (h.excl hc x hx)
    -- the deadline is set while the counter is positive and nobody is clearing it
    have h0 : GD { s with armed := true } :=
      { h with
        i1 := fun hl _ => Or.inl (h.armPos hl x hx hxp)
        i2 := fun _ _ => Or.inl ⟨rfl, hnc⟩ }
    exact ⟨gd_releaseM (gr_finishSend w (gr_irr hg _ true))
      (gd_finishSend w h0 hnq (fun _ _ => ⟨rfl, hnc⟩)), rest_releaseM _⟩
  | armErr w x hf =>
    have hnq := not_queued_of_findSend h hf nofun nofun
    have hfl := failed_sendFailed s x
    refine ⟨gd_releaseM (gr_finishSend w (gr_sendFailed x hg))
      (gd_finishSend w (gd_sendFailed x h) ?_ (fun hl => absurd hl (not_live hfl.done))),
      rest_releaseM _⟩
    rw [hfl.mWait]; exact hnq
  | readerFails hrd => exact gd_rest_readerFails h hr hrd
  | readBusy id it f hrd hf hl hm =>
    have hrq := h.reader_not_queued (by rw [hrd]; rfl)
    refine ⟨gd_enqueue (gd_erase f h hrd hg.go.idsNodup hl) hrq nofun (fun _ => rfl), ?_⟩
    -- `inFlightM` is held, by a sender inside the arming call
    intro hm'
    have e : mHeld { eraseSent s id with
        reader := .downWait id it f, mWait := (eraseSent s id).mWait ++ [.reader] } =
        mHeld (eraseSent s id) :=
      mHeld_congr rfl (by show false = s.reader.isClearing; rw [hrd]; rfl)
    rw [e, hm] at hm'; cases hm'
  | read id it f hrd hf hl hm =>
    have hrq := h.reader_not_queued (by rw [hrd]; rfl)
    have hm : mHeld s = false := hm
    have hmw := hr hm
    refine ⟨?_, fun _ => (mWait_readerAtM _ _ _ _).trans hmw⟩
    rw [readerAtM_eq]
    refine gd_readerAtN (gd_erase f h hrd hg.go.idsNodup hl) hrq (not_mHeld hm).1 ?_ hf rfl
    -- nobody is queued, so the counter already covers the item being answered
    intro hl'
    have := h.eq hl'
    rw [hmw, cntQ_nil, hrd] at this
    have : (eraseSent s id).inFlight = s.sent.length + 0 := this
    have hpos : 0 < s.sent.length := List.length_pos_of_mem (lookupSent_mem hl)
    omega
  | cleared id it f hrd =>
    have hf := (hg.held id it f (by rw [hrd]; rfl)).1
    exact ⟨gd_releaseM (gr_cleared hg hrd)
      (gd_finishFrame (s := { s with armed := false, reader := .reading }) (gd_cleared (s := s) h hrd) hf),
      rest_releaseM _⟩
  | clearErr id it f hrd =>
    exact ⟨gd_releaseM (gr_clearErr hg hrd)
        (gd_readerFail (s := deliverItem s it .connErr none) { (gd_cleared h hrd).gu with }),
      rest_releaseM _⟩
  | closed =>
    exact ⟨gd_failConn h,
      hr.of_qkeep ((QKeep.refl s).upd (failed_failConn s).mHeld (failed_failConn s).mWait)⟩

theorem gd_init (q : Nat) : GD (init q) where
  whoNodup := List.nodup_nil
  writerSnd := fun x hx => by cases hx
  directHanded := fun x hx => by cases hx
  queued := fun w hw => by cases hw
  qNodup := List.nodup_nil
  readerQ := fun hq => by cases hq
  excl := fun hc => by cases hc
  bound := Nat.le_refl _
  eq := fun _ => rfl
  fifo := fun _ l1 l2 hq => by
    have : (init q).mWait = [] := rfl
    rw [this] at hq
    cases l1 <;> cases hq
  armPos := fun _ x hx => by cases hx
  i1 := fun _ ha => by cases ha
  i2 := fun _ hp => by cases hp

end GV.Conn
