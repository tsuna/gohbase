import GohbaseVerif.Lemmas.Overlaps
/-! The invariant `GoodL` under sublists and insertion, and `put` on a good cache in closed form. -/
namespace GV.Cache
open GV GV.RegionName

theorem sorted_name_inj {l : List Region} (hwf : ∀ x ∈ l, x.WF) (hs : Sorted l) {x y : Region}
    (hx : x ∈ l) (hy : y ∈ l) (h : x.name = y.name) : x = y :=
  Decidable.by_contra fun e =>
    pairwise_forall_sym Ne.symm
      (List.Pairwise.imp_of_mem (fun ha hb hlt => nameLt_ne (hwf _ ha) (hwf _ hb) hlt) hs) hx hy e h

theorem GoodL.sublist {l l' : List Region} (hg : GoodL l) (h : l'.Sublist l) : GoodL l' :=
  ⟨hg.sorted.sublist h, fun x hx => hg.wf x (h.subset hx), hg.disjoint.sublist h⟩

theorem GoodL.overlap_eq_false {l : List Region} (hg : GoodL l) {a b : Region} (ha : a ∈ l)
    (hb : b ∈ l) (hne : a ≠ b) : overlap a b = false :=
  pairwise_forall_sym overlap_false_symm hg.disjoint ha hb hne

theorem GoodL.insert {l₁ l₂ : List Region} (hg : GoodL (l₁ ++ l₂)) {r : Region} (hr : r.WF)
    (h1 : ∀ x ∈ l₁, nameLt x r) (h2 : ∀ y ∈ l₂, nameLt r y)
    (hd : ∀ x ∈ l₁ ++ l₂, overlap x r = false) : GoodL (l₁ ++ r :: l₂) := by
  obtain ⟨s1, s2, s3⟩ := List.pairwise_append.mp hg.sorted
  refine ⟨List.pairwise_append.mpr ⟨s1, List.pairwise_cons.mpr ⟨h2, s2⟩, fun a ha b hb => ?_⟩,
    fun x hx => ?_, ?_⟩
  · rcases List.mem_cons.mp hb with rfl | hb
    · exact h1 a ha
    · exact s3 a ha b hb
  · rcases List.mem_cons.mp (List.perm_middle.mem_iff.mp hx) with rfl | h
    · exact hr
    · exact hg.wf x h
  · -- `overlap · · = false` is symmetric, so `r` may be moved to the front
    rw [List.pairwise_middle overlap_false_symm, List.pairwise_cons]
    exact ⟨fun x hx => overlap_false_symm (hd x hx), hg.disjoint⟩

theorem foldl_delName (ov L : List Region) :
    ov.foldl (fun l o => delName l o.name) L
      = L.filter (fun x => !(ov.any (fun o => o.name == x.name))) := by
  induction ov generalizing L with
  | nil => exact (List.filter_eq_self.mpr fun _ _ => rfl).symm
  | cons o os ih =>
    rw [List.foldl_cons, ih, delName, List.filter_filter]
    refine List.filter_congr fun x _ => ?_
    rw [List.any_cons, Bool.not_or, bne, BEq.comm, Bool.and_comm]

theorem mem_foldl_markDead (ov d : List Region) (x : Region) :
    x ∈ ov.foldl markDead d ↔ x ∈ d ∨ x ∈ ov := by
  induction ov generalizing d with
  | nil => simp
  | cons o os ih =>
    rw [List.foldl_cons, ih, markDead]
    split <;> rename_i h
    · by_cases hx : x = o <;> simp [hx, h]
    · simp [or_assoc]

/-- The cache content after an evicting `put`. -/
def evicted (l : List Region) (i : Nat) (r : Region) : List Region :=
  (l.take i).filter (fun x => !overlap x r) ++ r :: (l.drop i).filter (fun x => !overlap x r)

theorem evicted_good {l : List Region} (hg : GoodL l) {r : Region} (hr : r.WF) {i : Nat}
    (hbelow : ∀ x ∈ l.take i, nameLt x r) (habove : ∀ y ∈ l.drop i, nameLt r y) :
    GoodL (evicted l i r) := by
  have hsub : ((l.take i).filter (fun x => !overlap x r) ++
      (l.drop i).filter (fun x => !overlap x r)).Sublist l := by
    rw [← List.filter_append, List.take_append_drop]; exact List.filter_sublist
  refine (hg.sublist hsub).insert hr (fun x hx => hbelow x (List.mem_filter.mp hx).1)
    (fun y hy => habove y (List.mem_filter.mp hy).1) (fun x hx => ?_)
  rcases List.mem_append.mp hx with h | h <;> simpa using (List.mem_filter.mp h).2

theorem mem_evicted {l : List Region} {i : Nat} {r x : Region} :
    x ∈ evicted l i r ↔ x = r ∨ (x ∈ l ∧ overlap x r = false) := by
  simp only [evicted, List.mem_append, List.mem_cons, List.mem_filter, mem_take_or_drop i (l := l),
    Bool.not_eq_true']
  rw [or_and_right, or_left_comm]

/-- `Tree.Delete` by name removes exactly the overlapping regions: names are unique in the cache. -/
theorem evict_eq {l : List Region} (hwf : ∀ x ∈ l, x.WF) (hs : Sorted l) {r : Region}
    (hnew : ∀ x ∈ l, x.name ≠ r.name) (i : Nat) :
    (l.filter (overlap · r)).foldl (fun l o => delName l o.name) (insertAt l i r) = evicted l i r := by
  have hkeep : ∀ x ∈ l, (l.filter (overlap · r)).any (fun o => o.name == x.name) = overlap x r := by
    intro x hx
    rw [Bool.eq_iff_iff, List.any_eq_true]
    constructor
    · rintro ⟨o, ho, e⟩
      obtain ⟨ho1, ho2⟩ := List.mem_filter.mp ho
      rwa [← sorted_name_inj hwf hs ho1 hx (beq_iff_eq.mp e)]
    · exact fun hov => ⟨x, List.mem_filter.mpr ⟨hx, hov⟩, beq_self_eq_true _⟩
  have hkeepr : (l.filter (overlap · r)).any (fun o => o.name == r.name) = false := by
    rw [List.any_eq_false]
    exact fun o ho => by simpa using hnew o (List.mem_filter.mp ho).1
  rw [foldl_delName, insertAt, evicted, List.filter_append, List.filter_cons, hkeepr, Bool.not_false,
    if_pos rfl]
  congr 1
  · exact List.filter_congr fun x hx => by rw [hkeep x (List.mem_of_mem_take hx)]
  · exact congrArg _ (List.filter_congr fun x hx => by rw [hkeep x (List.mem_of_mem_drop hx)])

/-! One equation per exit of `put` (the fourth, a hit past the end, is unreachable). -/

theorem put_known {c : Cache} {r v : Region} {i : Nat}
    (hseek : seekIdx r.name c.regions = .ok (i, true)) (hv : c.regions[i]? = some v) :
    put c r = .ok (c, [v], false) := by
  rw [put, hseek]; simp only [hv]

theorem put_older {c : Cache} {r : Region} {i : Nat} {ov : List Region}
    (hseek : seekIdx r.name c.regions = .ok (i, false)) (hov : getOverlaps c.regions r = .ok ov)
    (hany : ov.any (fun o => r.id < o.id) = true) : put c r = .ok (c, ov, false) := by
  rw [put, hseek]; simp only [hov, hany, if_true]

theorem put_evicting {c : Cache} {r : Region} {i : Nat} {ov : List Region}
    (hseek : seekIdx r.name c.regions = .ok (i, false)) (hov : getOverlaps c.regions r = .ok ov)
    (hany : ov.any (fun o => r.id < o.id) = false) :
    put c r = .ok (⟨ov.foldl (fun l o => delName l o.name) (insertAt c.regions i r),
      ov.foldl markDead c.dead⟩, ov, true) := by
  rw [put, hseek]; simp only [hov, hany, Bool.false_eq_true, if_false]

/-- What `put` leaves when `r` comes in and all it overlaps goes. -/
structure Evicted (c : Cache) (r : Region) (c' : Cache) : Prop where
  good : Good c'
  mem : ∀ x, x ∈ c'.regions ↔ x = r ∨ (x ∈ c.regions ∧ overlap x r = false)
  gone : ∀ x ∈ c.regions, overlap x r = true → x ∉ c'.regions
  dead : ∀ x, x ∈ c'.dead ↔ x ∈ c.dead ∨ (x ∈ c.regions ∧ overlap x r = true)

/-- The name is cached already; or a strictly newer overlapping region is; or the overlapping
regions go (marked dead) and `r` comes in. -/
theorem put_spec {c : Cache} (hg : Good c) {r : Region} (hr : r.WF) :
    (∃ v ∈ c.regions, v.name = r.name ∧ put c r = .ok (c, [v], false)) ∨
    ((∀ x ∈ c.regions, x.name ≠ r.name) ∧
      (((∃ o ∈ c.regions, overlap o r = true ∧ r.id < o.id) ∧
          put c r = .ok (c, c.regions.filter (overlap · r), false)) ∨
       ((∀ o ∈ c.regions, overlap o r = true → o.id ≤ r.id) ∧
          ∃ c', put c r = .ok (c', c.regions.filter (overlap · r), true) ∧ Evicted c r c'))) := by
  obtain ⟨i, hit, hseek, hbelow, hfound, habove⟩ := seek_name hg.wf hg.sorted hr
  cases hit with
  | true =>
    obtain ⟨v, hv, hn⟩ := hfound rfl
    exact .inl ⟨v, List.mem_of_getElem? hv, hn, put_known hseek hv⟩
  | false =>
    have habove := habove rfl
    have hnames : ∀ x ∈ c.regions, x.name ≠ r.name := by
      intro x hx
      rcases (mem_take_or_drop i).mp hx with hx | hx
      · exact nameLt_ne (hg.wf x (List.mem_of_mem_take hx)) hr (hbelow x hx)
      · exact (nameLt_ne hr (hg.wf x (List.mem_of_mem_drop hx)) (habove x hx)).symm
    have hov := getOverlaps_filter hg hr.tableOK
    refine .inr ⟨hnames, ?_⟩
    cases hany : (c.regions.filter (overlap · r)).any (fun o => decide (r.id < o.id)) with
    | true =>
      obtain ⟨o, ho, hlt⟩ := List.any_eq_true.mp hany
      obtain ⟨ho1, ho2⟩ := List.mem_filter.mp ho
      exact .inl ⟨⟨o, ho1, ho2, by simpa using hlt⟩, put_older hseek hov hany⟩
    | false =>
      refine .inr ⟨fun o ho hov => ?_,
        ⟨evicted c.regions i r, (c.regions.filter (overlap · r)).foldl markDead c.dead⟩, ?_,
        { good := evicted_good hg hr hbelow habove
          mem := fun x => mem_evicted
          gone := fun x hx hov hmem => ?_
          dead := fun x => by rw [mem_foldl_markDead, List.mem_filter] }⟩
      · have := List.any_eq_false.mp hany o (List.mem_filter.mpr ⟨ho, hov⟩)
        simpa using this
      · rw [put_evicting hseek hov hany, evict_eq hg.wf hg.sorted hnames]
      · rcases mem_evicted.mp hmem with e | ⟨_, hno⟩
        · exact hnames x hx (by rw [e])
        · rw [hov] at hno; cases hno

/-- The first touch of a region of a consistent layout. -/
theorem put_disjoint {c : Cache} (hc : Good c) {r : Region} (hr : r.WF)
    (hname : ∀ x ∈ c.regions, x.name ≠ r.name) (hnov : ∀ x ∈ c.regions, overlap x r = false) :
    ∃ c', put c r = .ok (c', c.regions.filter (overlap · r), true) ∧ Good c' ∧
      (∀ x, x ∈ c'.regions ↔ x = r ∨ x ∈ c.regions) ∧ (∀ x, x ∈ c'.dead ↔ x ∈ c.dead) := by
  have hno : ∀ x, ¬ (x ∈ c.regions ∧ overlap x r = true) := fun x ⟨hx, hov⟩ => by
    rw [hnov x hx] at hov; cases hov
  rcases put_spec hc hr with ⟨v, hv, hn, _⟩ | ⟨_, ⟨⟨o, ho, hov, _⟩, _⟩ | ⟨_, c', hp, hE⟩⟩
  · exact absurd hn (hname v hv)
  · exact absurd ⟨ho, hov⟩ (hno o)
  · exact ⟨c', hp, hE.good,
      fun x => (hE.mem x).trans (or_congr_right (and_iff_left_of_imp (hnov x))),
      fun x => (hE.dead x).trans (or_iff_left (hno x))⟩

end GV.Cache
