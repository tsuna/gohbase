import GohbaseVerif.Lemmas.BatchSend
import GohbaseVerif.Gen.Exits
/-!
# C07 — Batch results are positional and self-consistent

`sendBatch` (Model/Batch.lean) is the model of `(*client).SendBatch`: a function of the batch and of
one `Round` per pass through the retry loop — what region location returns for each call, what is
on each call's result channel when `waitForCompletion` looks at it, the map iteration order,
where the batch context is seen done, and which calls' own contexts the back-off sleep after the
pass sees done (`gaveUp`). All of these are universally quantified below; a hypothesis
`sendBatch … = .ok R` only says that SendBatch returns (it does not block forever on a call that
never gets an answer while nobody cancels). The correspondence run (`harness/c07.go`, driver
`c07`) ties the model to the Go code.
-/
namespace GV.Batch
open GV

/-- Data that belongs to call `c` under the scripts: a response it was given in some round; an
error it was given in some round; an error region location returned for it in some round; the
error of its own context; the error of the batch context; `NotExecutedError`. -/
def OwnSlot (rounds : List Round) (c : Nat) (s : Slot) : Prop :=
  (∀ m, s.msg = some m → ∃ rd ∈ rounds, rd.ans c = .ok m) ∧
  (∀ e, s.err = some e → e = .notExecuted ∨ e = .batchCtx ∨ e = .ownCtx c ∨
    (∃ rd ∈ rounds, ∃ cls t, rd.ans c = .fail cls t ∧ e = .ans cls t) ∨
    (∃ rd ∈ rounds, rd.locate c = .error e))

theorem ownSlot_roundInv (rounds : List Round) (rd : Round) (h : rd ∈ rounds) :
    RoundInv (OwnSlot rounds) rd where
  ok c m hm := ⟨fun _ h' => by cases h'; exact ⟨rd, h, hm⟩, fun _ h' => nomatch h'⟩
  fail c cls t hm :=
    ⟨(fun _ h' => nomatch h'), fun _ h' => by cases h'; exact .inr (.inr (.inr (.inl ⟨rd, h, cls, t, hm, rfl⟩)))⟩
  own c s hs := ⟨hs.1, fun _ h' => by cases h'; exact .inr (.inr (.inl rfl))⟩
  ctx c s hs := ⟨hs.1, fun _ h' => by cases h'; exact .inr (.inl rfl)⟩
  loc c e he := ⟨(fun _ h' => nomatch h'), fun _ h' => by cases h'; exact .inr (.inr (.inr (.inr ⟨rd, h, he⟩)))⟩

/-- **The i-th result describes the i-th call and nothing else.** Whatever the other calls, the
routing, the grouping order and the cancellation point are: everything `SendBatch` returns in slot
`i` is data of call `batch[i]` itself (`OwnSlot`) — never another call's response or error. -/
theorem positional {info : Info} {batch : List Nat} {rounds : List Round} {R : Result}
    (hv : ValidBatch info batch) (h : sendBatch info batch rounds = .ok R)
    (i : Nat) (hi : i < batch.length) :
    OwnSlot rounds batch[i] (R.res[i]'(by rw [sendBatch_length h]; exact hi)) :=
  sendBatch_inv hv h
    (fun c => ⟨fun m h' => (by cases h'), fun e h' => (by cases h'; exact Or.inl rfl)⟩)
    (fun rd hrd => ownSlot_roundInv rounds rd hrd) i hi

/-- One write to a result slot: the whole `RPCResult`, or only its `Error` field. -/
inductive Touch where
  | whole (s : Slot)
  | errOnly (e : Err)

def applyTouch (s : Slot) : Touch → Slot
  | .whole s' => s'
  | .errOnly e => { s with err := some e }

/-- A write made of call `c`'s own data: a response / an error it was given in some round, an
error region location returned for it in some round, its own context's error, the batch context's. -/
def OwnTouch (rounds : List Round) (c : Nat) : Touch → Prop
  | .whole s =>
    (∃ rd ∈ rounds, ∃ m, rd.ans c = .ok m ∧ s = ⟨some m, none⟩) ∨
    (∃ rd ∈ rounds, ∃ cls t, rd.ans c = .fail cls t ∧ s = ⟨none, some (.ans cls t)⟩) ∨
    (∃ rd ∈ rounds, ∃ e, rd.locate c = .error e ∧ s = ⟨none, some e⟩)
  | .errOnly e => e = .ownCtx c ∨ e = .batchCtx

/-- **Explicit form of `positional`**: slot `i` is `NotExecutedError` overwritten by a sequence of
writes — the history of call `batch[i]` — each of which consists of that call's own data only;
`applyTouch` does not mention any other call. -/
theorem positional_fold {info : Info} {batch : List Nat} {rounds : List Round} {R : Result}
    (hv : ValidBatch info batch) (h : sendBatch info batch rounds = .ok R)
    (i : Nat) (hi : i < batch.length) :
    ∃ hist : List Touch,
      R.res[i]'(by rw [sendBatch_length h]; exact hi) = hist.foldl applyTouch ⟨none, some .notExecuted⟩ ∧
      ∀ t ∈ hist, OwnTouch rounds batch[i] t := by
  let P (c : Nat) (s : Slot) : Prop := ∃ hist : List Touch,
    s = hist.foldl applyTouch ⟨none, some .notExecuted⟩ ∧ ∀ t ∈ hist, OwnTouch rounds c t
  -- a write of the whole result starts the history afresh, a write of the error alone extends it
  have whole : ∀ c s, OwnTouch rounds c (.whole s) → P c s := fun c s ht =>
    ⟨[.whole s], rfl, fun t h => by rw [List.mem_singleton.mp h]; exact ht⟩
  have errOnly : ∀ c e s, OwnTouch rounds c (.errOnly e) → P c s → P c { s with err := some e } := by
    rintro c e s ht ⟨hist, rfl, hown⟩
    refine ⟨hist ++ [.errOnly e], by simp [List.foldl_append, applyTouch], fun t h => ?_⟩
    rcases List.mem_append.mp h with h | h
    · exact hown t h
    · rw [List.mem_singleton.mp h]; exact ht
  exact sendBatch_inv (P := P) hv h (fun c => ⟨[], rfl, fun _ ht => nomatch ht⟩)
    (fun rd hrd =>
      { ok := fun c m hm => whole c _ (.inl ⟨rd, hrd, m, hm, rfl⟩)
        fail := fun c cls t hm => whole c _ (.inr (.inl ⟨rd, hrd, cls, t, hm, rfl⟩))
        own := fun c s => errOnly c _ s (.inl rfl)
        ctx := fun c s => errOnly c _ s (.inr rfl)
        loc := fun c e he => whole c _ (.inr (.inr ⟨rd, hrd, e, he, rfl⟩)) }) i hi

/-- **A call that succeeded keeps its response and a nil error**: if call `batch[i]` was sent in
retry round `r` and the answer it got in that round is the response `m`, then slot `i` of the
returned results is exactly `⟨m, nil⟩` — whatever happens to the other calls and in later rounds
(failures, retries, re-location failures, cancellation at any point). -/
theorem success_kept {info : Info} {batch : List Nat} {rounds : List Round} {R : Result}
    (hv : ValidBatch info batch) (h : sendBatch info batch rounds = .ok R)
    (i : Nat) (hi : i < batch.length) {r m : Nat} {rd : Round}
    (hsent : Sent R.events r batch[i]) (hrd : rounds[r]? = some rd) (hm : rd.ans batch[i] = .ok m) :
    R.res[i]'(by rw [sendBatch_length h]; exact hi) = ⟨some m, none⟩ := by
  obtain ⟨_, rd', hrd', _, hok⟩ := (sendBatch_sends h).of_sent hsent
  rw [hrd] at hrd'; cases hrd'
  rw [← getSlot_eq_getElem hv.1 (sendBatch_length h) i hi]
  exact hok m hm

/-- **Every call ends with either a response or an error**: no returned slot is empty, for every
batch (valid or not) and every script. -/
theorem every_call_ends {info : Info} {batch : List Nat} {rounds : List Round} {R : Result}
    (h : sendBatch info batch rounds = .ok R) : ∀ s ∈ R.res, s.msg ≠ none ∨ s.err ≠ none := by
  rcases sendBatch_cases h with ⟨_, rfl⟩ | ⟨_, _, rfl⟩ | ⟨_, hv, _⟩
  · exact fun _ hs => nomatch hs
  · exact fun s hs => Or.inr (validate_slots _ _ _ _ s hs).2
  · intro s hs
    obtain ⟨i, hi, rfl⟩ := List.getElem_of_mem hs
    exact sendBatch_inv (P := fun _ s => s.msg ≠ none ∨ s.err ≠ none) hv h (fun _ => .inr nofun)
      (fun rd _ =>
        { ok := fun _ _ _ => .inl nofun, fail := fun _ _ _ _ => .inr nofun, own := fun _ _ _ => .inr nofun,
          ctx := fun _ _ _ => .inr nofun, loc := fun _ _ _ => .inr nofun }) i (sendBatch_length h ▸ hi)

/-- **The overall success flag is true exactly when every result has a nil error** — for every
batch (valid, invalid or empty), every routing, every outcome script and every cancellation point,
including a wait that is interrupted by cancellation and whose sweep still finds answers. -/
theorem allOK_iff {info : Info} {batch : List Nat} {rounds : List Round} {R : Result}
    (h : sendBatch info batch rounds = .ok R) : R.allOK = true ↔ ∀ s ∈ R.res, s.err = none := by
  rcases sendBatch_cases h with ⟨_, rfl⟩ | ⟨hne, _, rfl⟩ | ⟨_, hv, hr⟩
  · simp
  · -- a rejected batch is not empty and every slot carries an error
    refine ⟨fun hf => Bool.noConfusion hf, fun hnil => ?_⟩
    obtain ⟨s, hs⟩ := List.exists_mem_of_length_pos
      (l := (validate info (info.table (batch.headD 0)) [] batch).1)
      (by rw [validate_length]; exact List.length_pos_iff.mpr hne)
    exact absurd (hnil s hs) (validate_slots _ _ _ _ s hs).2
  · rw [hr.allOK_iff (fun _ hc => hc) (st0_book info batch)]
    exact slots_forall_iff hv.1 (sendBatch_length h) (fun s => s.err = none)

theorem allOK_sound {info : Info} {batch : List Nat} {rounds : List Round} {R : Result}
    (h : sendBatch info batch rounds = .ok R) (hok : R.allOK = true) : ∀ s ∈ R.res, s.err = none :=
  (allOK_iff h).mp hok

/-! ### A call whose own context is done while its region cannot be located

`rd.locate c = .error (.ownCtx c)` is what `findClients` reports for call `c` when the wait for
`c`'s region ended because `c`'s own context is done while the batch context is alive. -/

/-- **Such a call is failed alone, with its own-context error, and is neither queued nor retried.**
First round of a valid batch: whatever region location returns for the other calls (a client, the
same kind of failure, or another error that ends the whole batch), whatever they are answered and
wherever the batch is cancelled, slot `i` ends as exactly `⟨nil, ownCtxErr⟩`, `allOK` is false and
the call is not handed to any region client in any round. -/
theorem own_ctx_located_alone {info : Info} {batch : List Nat} {rd : Round} {rest : List Round}
    {R : Result} (hv : ValidBatch info batch) (h : sendBatch info batch (rd :: rest) = .ok R)
    (i : Nat) (hi : i < batch.length) (hown : rd.locate batch[i] = .error (.ownCtx batch[i])) :
    R.res[i]'(by rw [sendBatch_length h]; exact hi) = ⟨none, some (.ownCtx batch[i])⟩ ∧
    R.allOK = false ∧ ∀ r, ¬ Sent R.events r batch[i] := by
  have hlen := sendBatch_length h
  have hg := ownGone_iff.mpr hown
  have hmem := List.getElem_mem hi
  have hne := List.ne_nil_of_mem hmem
  have hslot : R.res[i]'(by rw [hlen]; exact hi) = ⟨none, some (.ownCtx batch[i])⟩ := by
    rw [← getSlot_eq_getElem hv.1 hlen i hi]
    exact (sendBatch_run hne hv h).slot_ownGone hmem hmem hg
  refine ⟨hslot, ?_, fun r hs => ?_⟩
  · cases hok : R.allOK
    · rfl
    · have := allOK_sound h hok _ (List.getElem_mem (by rw [hlen]; exact hi))
      rw [hslot] at this; cases this
  · -- sent in some round, it was sent in round 0, where it was not located
    have hS := sendBatch_sends h
    obtain ⟨_, rd', hrd', hloc, _⟩ := hS.of_sent (hS.sent_le hs (Nat.zero_le r))
    cases hrd'
    rw [ownGone_not_locOk hg] at hloc; cases hloc

/-- … in every retry round, too: a call is handed to a region client in round `r` only if region
location found a client for it in round `r` — a call whose location failed (its own context, or
anything else) is not queued in that round, hence (`only_retryable_resent`, C12) in no later one. -/
theorem queued_only_if_located {info : Info} {batch : List Nat} {rounds : List Round} {R : Result}
    (h : sendBatch info batch rounds = .ok R) {r c : Nat} {rd : Round}
    (hs : Sent R.events r c) (hrd : rounds[r]? = some rd) : ∃ k, rd.locate c = .ok k := by
  obtain ⟨_, rd', hrd', hloc, _⟩ := (sendBatch_sends h).of_sent hs
  rw [hrd] at hrd'; cases hrd'
  exact ⟨_, locOk_iff.mp hloc⟩

/-- **The other calls of the batch are unaffected by it.** In any pass through the retry loop (any
round, any state) in which every call either is located or is given up on because of its own
context: the pass is the pass over the remaining calls only (`liveCalls` — same grouping, same
waits, same retries, same back-off) from the state in which the calls failed alone carry their
own-context errors (`afterLocate`: `allOK` cleared, `unretryableErrorSeen` set). -/
theorem own_ctx_others_unaffected {b0 : List Nat} {rd : Round} {rest : List Round} {r : Nat}
    {batch : List Nat} {st : St}
    (hloc : ∀ c ∈ batch, locOk rd c = true ∨ rd.locate c = .error (.ownCtx c)) :
    loop b0 (rd :: rest) r batch st =
      loop b0 (rd :: rest) r (liveCalls rd batch) (afterLocate b0 rd batch st) :=
  loop_skip_ownGone (any_unlocated_false hloc)

/-- … and in the first round the `QueueBatch` calls are exactly the groups of the remaining calls. -/
theorem own_ctx_round0_queue {info : Info} {batch : List Nat} {rd : Round} {rest : List Round}
    {R : Result} (hne : batch ≠ []) (hv : ValidBatch info batch)
    (hloc : ∀ c ∈ batch, locOk rd c = true ∨ rd.locate c = .error (.ownCtx c))
    (h : sendBatch info batch (rd :: rest) = .ok R) :
    queuedAt R.events 0 = groups rd (liveCalls rd batch) ∧
    ∀ c, c ∈ liveCalls rd batch ↔ c ∈ batch ∧ rd.locate c ≠ .error (.ownCtx c) := by
  refine ⟨queuedAt_zero hne hv h (any_unlocated_false hloc), fun c => ?_⟩
  rw [mem_liveCalls, ne_eq, ← ownGone_iff, Bool.not_eq_true]

/-! ### The back-off sleep ends when nobody waits for the calls to be retried any more

`rd.gaveUp c` = call `c` has a context of its own and the back-off sleep after this pass sees it done
(`contextOfCalls` in rpc.go: the sleep runs under a context that is done when the batch context is
done or when the own context of EVERY call about to be retried is done; a call without a context of
its own keeps the sleep going to its end). -/

/-- **Any pass, any state**: all calls of the pass are located (or failed alone by their own
context), the batch context is not seen done, the pass has to back off for a non-zero time (a call
answered with a `RetryableError`, or the third immediate retry in a row) and every call about to be
retried has given up. Then `SendBatch` returns from inside the sleep: this pass's `QueueBatch`es are
the last ones, `allOK = false`, and every call of the pass that was answered with an error — the
ones that were going to be retried included — keeps exactly that error. -/
theorem sleep_ends_when_all_retries_gave_up_pass {b0 : List Nat} {rd : Round} {rest : List Round}
    {r : Nat} {batch : List Nat} {st : St} {R : Result}
    (h : loop b0 (rd :: rest) r batch st = .ok R)
    (hb : ∀ c ∈ batch, c ∈ b0) (hl : st.res.length = b0.length)
    (hany : batch.any (fun c => !locOk rd c && !ownGone rd c) = false)
    (hcancel : rd.cancel = .none)
    (hbk : (∃ c ∈ liveCalls rd batch, isBackoff (rd.ans c) = true) ∨
           (st.immediate > 1 ∧ ∃ c ∈ liveCalls rd batch, isRetry (rd.ans c) = true))
    (hbo : st.backoff ≠ 0)
    (hgone : ∀ c ∈ liveCalls rd batch, isRetry (rd.ans c) = true → rd.gaveUp c = true) :
    R.events = st.events ++ queueEvents r rd (liveCalls rd batch) ++
      [.sleepLeft (Gen.Backoff.sleepFor st.backoff)] ∧
    R.allOK = false ∧ R.interrupted = false ∧
    ∀ c ∈ liveCalls rd batch, ∀ cls t, rd.ans c = .fail cls t →
      getSlot b0 R.res c = ⟨none, some (.ans cls t)⟩ := by
  have hnd : ctxDoneAfterWait rd.cancel = false := by rw [hcancel]; rfl
  have hns : rd.cancel ≠ .sleep := by rw [hcancel]; intro h'; cases h'
  rw [loop_cons, if_neg (by rw [hany]; exact Bool.false_ne_true)] at h
  obtain ⟨a, hw, h⟩ := Outcome.bind_eq_ok h
  obtain ⟨pre, post, p⟩ := pass_of_waitAll hb hl hany hw
  obtain ⟨hpost, hint⟩ := p.uncut hnd
  subst hpost
  obtain ⟨c0, hc0, hr0⟩ : ∃ c ∈ liveCalls rd batch, isRetry (rd.ans c) = true :=
    hbk.elim (fun ⟨c, hc, hbc⟩ => ⟨c, hc, isBackoff_isRetry hbc⟩) And.right
  have hret : a.retries.isEmpty = false := by
    rw [List.isEmpty_eq_false_iff]; exact List.ne_nil_of_mem (p.mem_retries.mpr ⟨p.mem_pre_uncut.mpr hc0, hr0⟩)
  have hneed : (a.needBackoff || decide (st.immediate > 1)) = true := by
    rcases hbk with ⟨c, hc, hbc⟩ | ⟨hi, _⟩
    · rw [p.needBackoff, List.any_eq_true.mpr ⟨c, p.mem_pre_uncut.mpr hc, hbc⟩]; rfl
    · rw [decide_eq_true hi, Bool.or_true]
  have hall : a.retries.all rd.gaveUp = true :=
    List.all_eq_true.mpr fun c hc => hgone c (p.retries_live hc) (p.mem_retries.mp hc).2
  -- the pass does not end before the sleep, and the sleep is left at once
  rw [hret, hnd, Bool.or_self, if_neg Bool.false_ne_true, hneed, backOff_left hbo hns hall] at h
  cases h
  refine ⟨rfl, ?_, hint, fun c hc cls t hans => p.slot_fail (hb c (liveCalls_sub hc)) hc hans⟩
  show a.allOK = false
  have hnok : (pre.all fun c => (rd.ans c).isOk) = false :=
    List.all_eq_false.mpr ⟨c0, p.mem_pre_uncut.mpr hc0, by rw [isRetry_not_ok hr0]; exact Bool.false_ne_true⟩
  rw [p.allOK, hnok, Bool.and_false, Bool.false_and]

/-- **First pass of a valid batch**: some call is answered with a `RetryableError` (so the pass
backs off, for `backoffStart`) and every call answered with an error that is retried has a context of
its own that the sleep sees done. Then nothing is queued in any later round, every call answered with
an error keeps it in its slot, and `allOK = false`. -/
theorem sleep_ends_when_all_retries_gave_up {info : Info} {batch : List Nat} {rd : Round}
    {rest : List Round} {R : Result}
    (hv : ValidBatch info batch) (h : sendBatch info batch (rd :: rest) = .ok R)
    (hloc : ∀ c ∈ batch, locOk rd c = true ∨ rd.locate c = .error (.ownCtx c))
    (hcancel : rd.cancel = .none)
    (hbk : ∃ c ∈ liveCalls rd batch, isBackoff (rd.ans c) = true)
    (hgone : ∀ c ∈ liveCalls rd batch, isRetry (rd.ans c) = true → rd.gaveUp c = true) :
    R.events = queueEvents 0 rd (liveCalls rd batch) ++
      [.sleepLeft (Gen.Backoff.sleepFor Gen.Backoff.backoffStart)] ∧
    (∀ r c, ¬ Sent R.events (r + 1) c) ∧
    R.allOK = false ∧ R.interrupted = false ∧
    ∀ (i : Nat) (hi : i < batch.length) (cls : Cls) (t : Nat),
      batch[i] ∈ liveCalls rd batch → rd.ans batch[i] = .fail cls t →
      R.res[i]'(by rw [sendBatch_length h]; exact hi) = ⟨none, some (.ans cls t)⟩ := by
  have hne : batch ≠ [] := by
    obtain ⟨c, hc, _⟩ := hbk
    exact List.ne_nil_of_mem (liveCalls_sub hc)
  have hlen := sendBatch_length h
  have h' := h
  rw [sendBatch_valid hne hv] at h'
  obtain ⟨hev, hok, hint, hslots⟩ :=
    sleep_ends_when_all_retries_gave_up_pass h' (fun c hc => hc) (st0_length info batch)
      (any_unlocated_false hloc) hcancel
      (Or.inl hbk) (Int.ne_of_gt Gen.Backoff.backoffStart_pos) hgone
  have hev' : R.events = queueEvents 0 rd (liveCalls rd batch) ++
      [.sleepLeft (Gen.Backoff.sleepFor Gen.Backoff.backoffStart)] := by simpa [st0] using hev
  refine ⟨hev', ?_, hok, hint, ?_⟩
  · intro r c hs
    rw [hev'] at hs
    rcases sent_append.mp hs with hs | hs
    · have := (sent_queueEvents.mp hs).1; omega
    · obtain ⟨_, _, hm, _⟩ := hs
      cases List.mem_singleton.mp hm
  · intro i hi cls t hlive hans
    have := hslots batch[i] hlive cls t hans
    rwa [getSlot_eq_getElem hv.1 hlen i hi] at this

/-- **Every round**: when a call queued in round `r` is answered with a `RetryableError` (the round
backs off) and something is queued in round `r + 1`, then some call queued in round `r` was answered
with an error that is retried and had not given up when the back-off sleep ended: if all of them
have, nothing is sent any more. -/
theorem resent_after_backoff_needs_waiter {info : Info} {batch : List Nat} {rounds : List Round}
    {R : Result} (h : sendBatch info batch rounds = .ok R) {r c : Nat} {rd : Round}
    (hrd : rounds[r]? = some rd) (hs : Sent R.events (r + 1) c)
    (hbk : ∃ d t, Sent R.events r d ∧ rd.ans d = .fail .retryable t) :
    ∃ d, Sent R.events r d ∧ isRetry (rd.ans d) = true ∧ rd.gaveUp d = false := by
  obtain ⟨d, t, hsd, hans⟩ := hbk
  exact (sendBatch_sends h).waiter hs hrd ⟨d, hsd, by rw [hans]; rfl⟩

def gaveRound0 : Round :=
  ⟨fun _ => .ok 0, fun c => if c = 0 then .ok 11 else .fail .retryable 12, [], .none, fun c => c == 1⟩

/-- non-vacuity: call 0 succeeds, call 1 gets a RetryableError and its own context is done inside
the back-off sleep: `SendBatch` returns from the sleep (of `backoffStart` = 16000000 ns), the scripted
second round never happens -/
example : sendBatch ⟨fun _ => 0, fun _ => true⟩ [0, 1]
    [gaveRound0, ⟨fun _ => .ok 0, fun _ => .ok 13, [], .none, fun _ => false⟩]
    = .ok ⟨[⟨some 11, none⟩, ⟨none, some (.ans .retryable 12)⟩], false,
           [.queue 0 0 [0, 1], .sleepLeft 16000000], false⟩ := by decide

example : ∃ c ∈ liveCalls gaveRound0 [0, 1], isBackoff (gaveRound0.ans c) = true :=
  ⟨1, by decide, by decide⟩

example : ∀ c ∈ liveCalls gaveRound0 [0, 1], isRetry (gaveRound0.ans c) = true → gaveRound0.gaveUp c = true := by
  decide

/-- two calls to retry, only call 1 has given up (call 0 has no context of its own, or it is alive):
the sleep runs to its end, both are queued again; call 1 then ends with its own-context error -/
example : sendBatch ⟨fun _ => 0, fun _ => true⟩ [0, 1]
    [⟨fun _ => .ok 0, fun c => .fail .retryable (12 + c), [], .none, fun c => c == 1⟩,
     ⟨fun _ => .ok 0, fun c => if c = 0 then .ok 13 else .ownDone, [], .none, fun _ => false⟩]
    = .ok ⟨[⟨some 13, none⟩, ⟨none, some (.ownCtx 1)⟩], false,
           [.queue 0 0 [0, 1], .sleep 16000000, .queue 1 0 [0, 1]], false⟩ := by decide

/-- a later back-off: the first sleep completes (nobody has given up yet), the second one is left -/
example : sendBatch ⟨fun _ => 0, fun _ => true⟩ [0]
    [⟨fun _ => .ok 0, fun _ => .fail .retryable 1, [], .none, fun _ => false⟩,
     ⟨fun _ => .ok 0, fun _ => .fail .retryable 2, [], .none, fun _ => true⟩,
     ⟨fun _ => .ok 0, fun _ => .ok 3, [], .none, fun _ => false⟩]
    = .ok ⟨[⟨none, some (.ans .retryable 2)⟩], false,
           [.queue 0 0 [0], .sleep 16000000, .queue 1 0 [0], .sleepLeft 32000000], false⟩ := by decide

/-- not-serving errors only: the first retries are immediate (no sleep to leave, whoever has given
up); the sleep that the third one in a row asks for is left -/
example : sendBatch ⟨fun _ => 0, fun _ => true⟩ [0]
    [⟨fun _ => .ok 0, fun _ => .fail .nsre 1, [], .none, fun _ => true⟩,
     ⟨fun _ => .ok 0, fun _ => .fail .nsre 2, [], .none, fun _ => true⟩,
     ⟨fun _ => .ok 0, fun _ => .fail .nsre 3, [], .none, fun _ => true⟩,
     ⟨fun _ => .ok 0, fun _ => .ok 4, [], .none, fun _ => false⟩]
    = .ok ⟨[⟨none, some (.ans .nsre 3)⟩], false,
           [.queue 0 0 [0], .queue 1 0 [0], .queue 2 0 [0], .sleepLeft 16000000], false⟩ := by decide

/-! ### An interrupted wait whose sweep finds the answer (the case repaired in gohbase by commit 862de01) -/

def witnessInfo : Info := ⟨fun _ => 0, fun _ => true⟩
def witnessRound : Round := ⟨fun _ => .ok 0, fun _ => .ok 7, [], .wait 0, fun _ => false⟩

/-- one call, one region client; the batch context is seen done by the select that waits for the call
and the call's successful answer is there when the non-blocking sweep reads the channel:
`{Msg: 7, Error: nil}` and `allOK = true` -/
example : sendBatch witnessInfo [0] [witnessRound]
    = .ok ⟨[⟨some 7, none⟩], true, [.queue 0 0 [0]], true⟩ := by decide

/-- an interrupted wait whose sweep finds nothing: context error, `allOK = false` -/
example : sendBatch witnessInfo [0] [⟨fun _ => .ok 0, fun _ => .silent, [], .wait 0, fun _ => false⟩]
    = .ok ⟨[⟨none, some .batchCtx⟩], false, [.queue 0 0 [0]], true⟩ := by decide

/-! ### Non-vacuity of the theorems on slots and on calls failed alone -/

def exInfo : Info := ⟨fun _ => 0, fun _ => true⟩
def exRound0 : Round := ⟨fun c => .ok c, fun c => if c = 0 then .ok 11 else .fail .nsre 12, [1, 0], .none, fun _ => false⟩
def exRound1 : Round := ⟨fun c => if c = 1 then .error .batchCtx else .ok 0, fun _ => .silent, [], .none, fun _ => false⟩

/-- two calls on two region clients; call 0 succeeds, call 1 gets NotServingRegion, is retried and
its re-location is cancelled: the success is kept, the other call ends with the location error -/
example : sendBatch exInfo [0, 1] [exRound0, exRound1]
    = .ok ⟨[⟨some 11, none⟩, ⟨none, some .batchCtx⟩], false,
           [.queue 0 1 [1], .queue 0 0 [0]], false⟩ := by decide

example : ValidBatch exInfo [0, 1] := by
  refine ⟨by simp, ?_⟩
  intro c _; exact ⟨rfl, rfl⟩

example : Sent [Event.queue 0 1 [1], Event.queue 0 0 [0]] 0 0 := ⟨0, [0], by simp, by simp⟩

def ownRound0 : Round :=
  ⟨fun c => if c = 1 then .error (.ownCtx 1) else .ok 0, fun c => if c = 0 then .ok 11 else .fail .nsre 12, [], .none, fun _ => false⟩
def ownRound1 : Round := ⟨fun _ => .ok 0, fun _ => .ok 13, [], .none, fun _ => false⟩

/-- three calls; call 1's own context is done and its region cannot be located in round 0: it is
failed alone (not queued, not retried), call 0 succeeds, call 2 gets NotServingRegion, is retried
alone and succeeds; `allOK = false` because of call 1 only -/
example : sendBatch exInfo [0, 1, 2] [ownRound0, ownRound1]
    = .ok ⟨[⟨some 11, none⟩, ⟨none, some (.ownCtx 1)⟩, ⟨some 13, none⟩], false,
           [.queue 0 0 [0, 2], .queue 1 0 [2]], false⟩ := by decide

example : ownRound0.locate [0, 1, 2][1] = .error (.ownCtx [0, 1, 2][1]) := rfl

example : ∀ c ∈ [0, 1, 2], locOk ownRound0 c = true ∨ ownRound0.locate c = .error (.ownCtx c) := by
  intro c hc
  simp only [List.mem_cons, List.not_mem_nil, or_false] at hc
  rcases hc with rfl | rfl | rfl <;> simp [locOk, ownRound0]

/-- … in a retry round: call 1 is retried, its own context is done by then and its region is not
available: it ends with its own-context error instead of waiting; call 0 keeps its success -/
example : sendBatch exInfo [0, 1]
    [exRound0, ⟨fun c => if c = 1 then .error (.ownCtx 1) else .ok 0, fun _ => .silent, [], .none, fun _ => false⟩]
    = .ok ⟨[⟨some 11, none⟩, ⟨none, some (.ownCtx 1)⟩], false,
           [.queue 0 1 [1], .queue 0 0 [0]], false⟩ := by decide

/-- … next to a call whose location fails for another reason: the batch ends, both errors reported -/
example : sendBatch exInfo [0, 1]
    [⟨fun c => if c = 1 then .error (.ownCtx 1) else .error .closed, fun _ => .silent, [], .none, fun _ => false⟩]
    = .ok ⟨[⟨none, some .closed⟩, ⟨none, some (.ownCtx 1)⟩], false, [], false⟩ := by decide

/-- a run with a retry after back-off that ends `allOK = true`, not interrupted -/
example : sendBatch exInfo [0]
    [⟨fun _ => .ok 0, fun _ => .fail .retryable 1, [], .none, fun _ => false⟩, ⟨fun _ => .ok 0, fun _ => .ok 2, [], .none, fun _ => false⟩]
    = .ok ⟨[⟨some 2, none⟩], true, [.queue 0 0 [0], .sleep 16000000, .queue 1 0 [0]], false⟩ := by decide

/-- Regenerated from rpc.go (`findClients`): the model's `Round.locate` is a function of the call —
what location returns for one call does not depend on which calls were located before it in the
same round. In the source that rests on the context of a location being declared per call, inside
the loop over the batch (`rctx, … := ctx, …` in the body of the `range`), and derived from the batch
context alone; a context carried over from the previous call would make the location of a call
without a context of its own fail with that other call's cancellation. -/
theorem location_context_is_per_call_in_source :
    GV.Gen.Exits.findClientsLocateCtxPerCall = true ∧
    GV.Gen.Exits.findClientsWithCancel = ["rctx, cancel = WithCancel(ctx)"] := by decide +kernel

end GV.Batch
