import GohbaseVerif.Basic
import GohbaseVerif.Gen.Wire
/-!
# Model of the client-side scanner (`/repo/scanner.go`, `/repo/hrpc/scan.go`) — C06 / C14

The scanner is a sequential state machine driven by `Next`/`Close`; the only interface call is
`RPCClient.SendRPC(scan request)`.  The environment is therefore a *script*: the list of replies
the `RPCClient` gives to the synchronous scan requests (open / continue), in order.  The close
request of `closeRegionScanner` is sent with `go s.SendRPC(..)`: its reply is never looked at, so
it consumes no scripted reply and is only recorded in the request log.

What HBase may legally put into such a script is the acceptor `Srv.step` / `Conforming` at the end
of the file (DESIGN §5 `Env.Scan`).

Not modelled: `renewLoop` / `renew` (timing only: it re-sends `renew = true` requests for the
current scanner id on a ticker and never touches the scanner state), scan metrics, the `Stale`
flag, and `noScannerID = MaxUint64` as a legal scanner id (ids are `Nat`s below `2^64 - 1`).
-/
namespace GV.Scanner
open GV

/-- A cell: the row it belongs to and an opaque identity (family/qualifier/value/…). -/
structure Cell where
  row : Bytes
  q : Nat
  deriving DecidableEq, Repr

/-- `pb.Result`: cells and the `partial` flag. -/
structure Frag where
  cells : List Cell
  part : Bool
  deriving DecidableEq, Repr

structure Region where
  start : Bytes
  stop : Bytes
  deriving DecidableEq, Repr

/-- `pb.ScanResponse` as far as the scanner reads it. `moreResults = false` means the field is
    present and false (`resp.MoreResults != nil && !*resp.MoreResults`). -/
structure Resp where
  results : List Frag
  scannerId : Option Nat
  moreInRegion : Bool
  moreResults : Bool
  deriving DecidableEq, Repr

/-- What `SendRPC` returns for a synchronous scan request: a response together with the region
    the client resolved for the call (`rpc.Region()`), or an error. -/
inductive Reply where
  | resp (reg : Region) (r : Resp)
  | err (cls : String)
  deriving DecidableEq, Repr

/-- The user's `hrpc.Scan`. `closing` = the user passed `hrpc.CloseScanner()`. -/
structure Scan where
  start : Bytes
  stop : Bytes
  reversed : Bool
  allowPartial : Bool
  closing : Bool
  nrows : Nat
  deriving DecidableEq, Repr

inductive Kind where
  | open | cont | close
  deriving DecidableEq, Repr

/-- A scan request as the server sees it (`Scan.ToProto`): the open form carries start/stop row
    and the user's options, the scanner-id form carries the id. -/
structure Req where
  kind : Kind
  startRow : Bytes
  stopRow : Bytes
  id : Option Nat
  closeFlag : Bool
  nrows : Nat
  deriving DecidableEq, Repr

/-- One request and the reply the client saw (`none`: asynchronous close, reply ignored). -/
structure Exch where
  req : Req
  reply : Option Reply
  deriving DecidableEq, Repr

/-- `scanner` struct plus the log of requests sent so far (newest first). -/
structure St where
  curId : Option Nat
  startRow : Bytes
  results : List Frag
  closed : Bool
  log : List Exch
  deriving DecidableEq, Repr

/-- `newScanner`. -/
def St.init (sc : Scan) : St :=
  { curId := none, startRow := sc.start, results := [], closed := false, log := [] }

/-! ## request / update / isDone / Close -/

/-- `scanner.request`: the request that is built from the current state. -/
def mkReq (sc : Scan) (s : St) : Req :=
  match s.curId with
  | none => { kind := .open, startRow := s.startRow, stopRow := sc.stop, id := none,
              closeFlag := sc.closing, nrows := sc.nrows }
  | some id => { kind := .cont, startRow := s.startRow, stopRow := [], id := some id,
                 closeFlag := false, nrows := sc.nrows }

/-- The request of `closeRegionScanner`. -/
def closeReq (s : St) (id : Nat) : Req :=
  { kind := .close, startRow := s.startRow, stopRow := [], id := some id, closeFlag := true, nrows := 0 }

/-- `scanner.openRegionScanner`, including its panic. -/
def openRegionScannerO (s : St) (id : Nat) : Outcome St :=
  if s.curId.isSome then .fault "should not happen: previous region scanner was not closed"
  else .ok { s with curId := some id }

/-- Reversed scan: the greatest key below a non-empty region start key `rsk`, as the client
    approximates it (drop a trailing `0x00`, else decrement the last byte and pad). -/
def prevKey (rsk : Bytes) : Bytes :=
  match rsk.getLast? with
  | none => []
  | some b => if b = 0 then rsk.dropLast else rsk.dropLast ++ [b - 1] ++ Gen.Wire.rowPadding

/-- The second half of `scanner.update` (after the scanner id has been noted). -/
def updateRow (sc : Scan) (s : St) (r : Resp) (reg : Region) : St :=
  if r.moreInRegion then s else
  let s2 := { s with curId := none }
  if !sc.reversed then { s2 with startRow := reg.stop }
  else if reg.start = [] then { s2 with startRow := reg.start }
  else { s2 with startRow := prevKey reg.start }

/-- `scanner.update`, faithful (the panic of `openRegionScanner` is a possible outcome). -/
def updateO (sc : Scan) (s : St) (r : Resp) (reg : Region) : Outcome St :=
  match (if s.curId.isNone then r.scannerId else none) with
  | some id =>
    match openRegionScannerO s id with
    | .ok s1 => .ok (updateRow sc s1 r reg)
    | .err c => .err c
    | .fault w => .fault w
  | none => .ok (updateRow sc s r reg)

/-- `scanner.update` as a total function (`update_never_panics`: the panic is dead code). -/
def update (sc : Scan) (s : St) (r : Resp) (reg : Region) : St :=
  let s1 := match s.curId, r.scannerId with
    | none, some id => { s with curId := some id }
    | _, _ => s
  updateRow sc s1 r reg

/-- `scanner.isDone` (called after `update`). -/
def isDone (sc : Scan) (s : St) (r : Resp) (reg : Region) : Bool :=
  if !r.moreResults then true
  else if s.curId.isSome then false
  else if reg.stop = [] && !sc.reversed then true
  else if sc.reversed && reg.start = [] then true
  else if !sc.reversed then sc.stop ≠ [] && bcmp sc.stop reg.stop != .gt
  else sc.stop ≠ [] && bcmp sc.stop reg.start != .lt

/-- `scanner.closeRegionScanner`: `go s.SendRPC(close request)` unless the user's scan is itself
    a `CloseScanner` scan; the reply is ignored. -/
def closeRegionScanner (sc : Scan) (s : St) : St :=
  match s.curId with
  | none => s
  | some id =>
    let s1 := if sc.closing then s else { s with log := ⟨closeReq s id, none⟩ :: s.log }
    { s1 with curId := none }

/-- `scanner.Close` (always returns nil; sends at most the asynchronous close: never blocks). -/
def close (sc : Scan) (s : St) : St :=
  if s.closed then s else closeRegionScanner sc { s with closed := true }

/-! ## fetch / peek / shift / coalesce / Next -/

inductive FetchRes where
  | rows (f : Frag) (fs : List Frag)
  | eof
  | err (cls : String)
  deriving DecidableEq, Repr

/-- One iteration of the `fetch` loop up to and including `isDone`/`Close`, for a response. -/
def onResp (sc : Scan) (s : St) (reg : Region) (r : Resp) : St :=
  let s1 := { s with log := ⟨mkReq sc s, some (.resp reg r)⟩ :: s.log }
  let s2 := update sc s1 r reg
  if isDone sc s2 r reg then close sc s2 else s2

/-- … and for an RPC error: `s.Close(); return nil, err`. -/
def onErr (sc : Scan) (s : St) (rp : Option Reply) : St :=
  close sc { s with log := ⟨mkReq sc s, rp⟩ :: s.log }

/-- `scanner.fetch`. The script of replies is consumed one per request; an exhausted script
    behaves like an RPC error of class `starved` (the harness never produces it). -/
def fetch (sc : Scan) : List Reply → St → FetchRes × St × List Reply
  | [], s => (.err "starved", onErr sc s (some (.err "starved")), [])
  | .err c :: rest, s => (.err c, onErr sc s (some (.err c)), rest)
  | .resp reg r :: rest, s =>
    let s3 := onResp sc s reg r
    match r.results with
    | f :: fs => (.rows f fs, s3, rest)
    | [] => if s3.closed then (.eof, s3, rest) else fetch sc rest s3

inductive PeekRes where
  | frag (f : Frag)
  | eof
  | err (cls : String)
  deriving DecidableEq, Repr

/-- `scanner.peek` (renewer start/stop left out). -/
def peek (sc : Scan) (R : List Reply) (s : St) : PeekRes × St × List Reply :=
  match s.results with
  | f :: _ => (.frag f, s, R)
  | [] =>
    if s.closed then (.eof, s, R) else
    match fetch sc R s with
    | (.rows f fs, s1, R1) => (.frag f, { s1 with results := f :: fs }, R1)
    | (.eof, s1, R1) => (.eof, s1, R1)
    | (.err c, s1, R1) => (.err c, s1, R1)

/-- `scanner.shift`. -/
def shift (s : St) : St := { s with results := s.results.tail }

def firstRow (cs : List Cell) : Option Bytes := cs.head?.map (·.row)

/-- `len(partial.Cell) > 0 && len(result.Cell) > 0 && !bytes.Equal(result.Cell[0].Row, partial.Cell[0].Row)` -/
def isNewRow (r p : Frag) : Bool :=
  match firstRow p.cells, firstRow r.cells with
  | some a, some b => b != a
  | _, _ => false

/-- `scanner.coalesce`: the accumulated result keeps the *first* fragment's partial flag until
    it is reset at a row change (or at EOF, in `Next`). -/
def coalesce (acc : Option Frag) (p : Frag) : Frag × Bool :=
  match acc with
  | none => (p, true)
  | some r =>
    if !r.part then (r, false)
    else if isNewRow r p then ({ r with part := false }, false)
    else ({ r with cells := r.cells ++ p.cells }, true)

/-- `(result, error)` of one `Next` call; `err = some "EOF"` is `io.EOF`. -/
structure Item where
  res : Option Frag
  err : Option String
  deriving DecidableEq, Repr

/-- The `for` loop of `Next` without `AllowPartialResults`. `acc` is the local `result`.
    `none` = the iteration bound was too small (never the case in `next`: `nextLoop_isSome`). -/
def nextLoop (sc : Scan) : Nat → Option Frag → List Reply → St → Option (Item × St × List Reply)
  | 0, _, _, _ => none
  | fuel + 1, acc, R, s =>
    match peek sc R s with
    | (.eof, s1, R1) =>
      match acc with
      | some a => some (⟨some { a with part := false }, none⟩, s1, R1)
      | none => some (⟨none, some "EOF"⟩, s1, R1)
    | (.err c, s1, R1) => some (⟨acc, some c⟩, s1, R1)
    | (.frag p, s1, R1) =>
      let cd := coalesce acc p
      let s2 := if cd.2 then shift s1 else s1
      if !cd.1.part then some (⟨some cd.1, none⟩, s2, R1) else nextLoop sc fuel (some cd.1) R1 s2

/-- Loop bound: every iteration that does not return consumes a buffered or scripted fragment. -/
def measure (R : List Reply) (s : St) : Nat :=
  s.results.length + (R.map fun rp => match rp with
    | .resp _ r => r.results.length + 1
    | .err _ => 1).sum

/-- `scanner.Next`. `cancelled` = the scan's context is done when `Next` is entered. -/
def next (sc : Scan) (cancelled : Bool) (R : List Reply) (s : St) : Item × St × List Reply :=
  if cancelled && !s.closed then
    (⟨none, some "canceled"⟩, { close sc s with results := [] }, R)
  else if sc.allowPartial then
    match peek sc R s with
    | (.frag f, s1, R1) => (⟨some f, none⟩, shift s1, R1)
    | (.eof, s1, R1) => (⟨none, some "EOF"⟩, s1, R1)
    | (.err c, s1, R1) => (⟨none, some c⟩, s1, R1)
  else (nextLoop sc (measure R s + 1) none R s).getD (⟨none, some "fuel"⟩, s, R)

/-- Call `Next` until it returns an error (`io.EOF` included); the items returned, in order. -/
def collectN (sc : Scan) : Nat → List Reply → St → List Item × St × List Reply
  | 0, R, s => ([], s, R)
  | n + 1, R, s =>
    match next sc false R s with
    | (it, s1, R1) =>
      if it.err.isSome then ([it], s1, R1) else
      match collectN sc n R1 s1 with
      | (its, s2, R2) => (it :: its, s2, R2)

def collect (sc : Scan) (R : List Reply) : List Item × St × List Reply :=
  collectN sc (measure R (St.init sc) + 1) R (St.init sc)

/-! ## the coalescer on a plain stream of fragments (specification of the `Next` loop) -/

/-- One `Next` (no `AllowPartialResults`) on a stream of fragments: the result and the rest of
    the stream; `none` = end of stream with nothing accumulated (`io.EOF`). -/
def assemble1 : Option Frag → List Frag → Option (Frag × List Frag)
  | acc, [] => acc.map fun a => ({ a with part := false }, [])
  | acc, f :: fs =>
    let cd := coalesce acc f
    if cd.2 then (if cd.1.part then assemble1 (some cd.1) fs else some (cd.1, fs))
    else some (cd.1, f :: fs)

/-- All results of calling `Next` until `io.EOF` on a stream of fragments. -/
def assembleAll : Option Frag → List Frag → List Frag
  | acc, [] => (acc.map fun a => { a with part := false }).toList
  | acc, f :: fs =>
    let cd := coalesce acc f
    if cd.2 then (if cd.1.part then assembleAll (some cd.1) fs else cd.1 :: assembleAll none fs)
    else cd.1 :: (if f.part then assembleAll (some f) fs else f :: assembleAll none fs)

/-! ## user-level operation sequences (C14: ends injected anywhere) -/

inductive Op where
  | next    -- call Next
  | close   -- call Close
  | cancel  -- the scan's context is cancelled (not a call)
  deriving DecidableEq, Repr

/-- Runs a sequence of user operations; one `Item` per `Next`. -/
def runOps (sc : Scan) : List Op → Bool → List Reply → St → List Item × St × List Reply
  | [], _, R, s => ([], s, R)
  | .next :: ops, c, R, s =>
    match next sc c R s with
    | (it, s1, R1) =>
      match runOps sc ops c R1 s1 with
      | (its, s2, R2) => (it :: its, s2, R2)
  | .close :: ops, c, R, s => runOps sc ops c R (close sc s)
  | .cancel :: ops, _, R, s => runOps sc ops true R s

/-! ## what the server sees: request trace and open region scanners -/

/-- Requests in the order they were sent. -/
def St.trace (s : St) : List Req := (s.log.reverse).map (·.req)

/-- Server-side effect of one exchange on the set of open region scanners, as far as the client
    can know it: a response to an open request that carries a scanner id opens that id; the
    server closes an id when it answers `more_results_in_region = false`, when the request
    carried `close_scanner`. (An error reply changes nothing the client can know.) -/
def openAfter (opn : List Nat) (e : Exch) : List Nat :=
  match e.req.kind, e.reply with
  | .close, _ => opn.filter (fun i => some i != e.req.id)
  | .open, some (.resp _ r) =>
    match r.scannerId with
    | some id => if r.moreInRegion && !e.req.closeFlag then id :: opn else opn
    | none => opn
  | .cont, some (.resp _ r) =>
    if r.moreInRegion && !e.req.closeFlag then opn else opn.filter (fun i => some i != e.req.id)
  | _, _ => opn

/-- Region scanners open at the server after the exchanges of a log (newest first). -/
def openSet : List Exch → List Nat
  | [] => []
  | e :: es => openAfter (openSet es) e

def St.serverOpen (s : St) : List Nat := openSet s.log

/-- Scanner ids the client has learnt (ids in responses to its open requests). -/
def learnt : List Exch → List Nat
  | [] => []
  | e :: es =>
    match e.req.kind, e.reply with
    | .open, some (.resp _ r) => r.scannerId.toList ++ learnt es
    | _, _ => learnt es

/-- The id a response speaks about: the one it announces (open request) or the request's. -/
def Exch.subject (e : Exch) (r : Resp) : Option Nat :=
  match e.req.kind with
  | .open => r.scannerId
  | _ => e.req.id

/-- Ids for which the server reported `more_results_in_region = false` (exhausted there). -/
def exhausted : List Exch → List Nat
  | [] => []
  | e :: es =>
    match e.reply with
    | some (.resp _ r) => if r.moreInRegion then exhausted es else (e.subject r).toList ++ exhausted es
    | _ => exhausted es

/-- Ids that were sent an explicit close request (`close_scanner = true` on the id). -/
def closesSent : List Exch → List Nat
  | [] => []
  | e :: es =>
    match e.req.kind with
    | .close => e.req.id.toList ++ closesSent es
    | _ => closesSent es

/-! ## the environment `Env.Scan`: table, region layout, conforming server -/

structure Row where
  key : Bytes
  cells : List Nat
  deriving DecidableEq, Repr

def Row.frag (r : Row) : List Cell := r.cells.map fun q => ⟨r.key, q⟩

/-- `a < b` in `bytes.Compare`. -/
def blt (a b : Bytes) : Bool := bcmp a b == .lt
/-- `a ≤ b`. -/
def ble (a b : Bytes) : Bool := bcmp a b != .gt

/-- Key `k` lies in region `[start, stop)` (`stop = []`: unbounded). -/
def Region.has (g : Region) (k : Bytes) : Bool := ble g.start k && (g.stop == [] || blt k g.stop)

/-- Contiguous regions from the split points (strictly increasing, non-empty). -/
def regionsFrom : Bytes → List Bytes → List Region
  | a, [] => [⟨a, []⟩]
  | a, b :: bs => ⟨a, b⟩ :: regionsFrom b bs

def regions (splits : List Bytes) : List Region := regionsFrom [] splits

def splitsOk : Bytes → List Bytes → Bool
  | _, [] => true
  | a, b :: bs => blt a b && splitsOk b bs

/-- Region the client routes an open request to: the one containing the request's key (its start
    row), in both directions — `client.SendRPC` looks the region up by `rpc.Key()`, so the empty
    start row always goes to the *first* region (which is why the API asks for an explicit start
    row on reversed scans). -/
def locate (splits : List Bytes) (k : Bytes) : Option Region :=
  (regions splits).find? (·.has k)

/-- The whole scan range. Forward: `[start, stop)`; reversed: `(stop, start]` scanned downwards
    (an empty bound is unbounded). -/
def inRangeKey (reversed : Bool) (start stop : Bytes) (k : Bytes) : Bool :=
  if reversed then (start == [] || ble k start) && (stop == [] || blt stop k)
  else ble start k && (stop == [] || blt k stop)

/-- Rows in scan order. -/
def scanOrder (reversed : Bool) (table : List Row) : List Row :=
  if reversed then table.reverse else table

/-- The specification: rows of the table in the requested range, in scan order. -/
def inRange (sc : Scan) (table : List Row) : List Row :=
  (scanOrder sc.reversed table).filter fun r => inRangeKey sc.reversed sc.start sc.stop r.key

/-- Rows a region scanner on `g` opened with `[start, stop)` yields. -/
def regionRows (table : List Row) (g : Region) (reversed : Bool) (start stop : Bytes) : List Row :=
  (scanOrder reversed table).filter fun r => g.has r.key && inRangeKey reversed start stop r.key

/-- Rows of the range that lie beyond region `g` in scan direction. -/
def beyond (table : List Row) (g : Region) (reversed : Bool) (start stop : Bytes) : List Row :=
  (scanOrder reversed table).filter fun r =>
    inRangeKey reversed start stop r.key &&
      (if reversed then blt r.key g.start else (g.stop != [] && ble g.stop r.key))

/-- Cut a prefix of the pending rows into the fragments `fs`: every fragment is a non-empty run
    of cells of the first pending row, `partial = true` iff cells of that row remain.
    Returns what is still pending. -/
def chunk : List (List Cell) → List Frag → Option (List (List Cell))
  | p, [] => some p
  | [], _ :: _ => none
  | row :: p, f :: fs =>
    if f.cells = [] then none
    else if f.part then
      (if f.cells.length < row.length ∧ row.take f.cells.length = f.cells
       then chunk (row.drop f.cells.length :: p) fs else none)
    else if f.cells = row then chunk p fs else none

/-- An open region scanner at the server. -/
structure SrvScanner where
  id : Nat
  reg : Region
  pending : List (List Cell)
  last : Bool     -- nothing of the range lies beyond this region
  deriving DecidableEq, Repr

/-- Server state: open region scanners and every id handed out so far. -/
structure Srv where
  scanners : List SrvScanner
  used : List Nat
  deriving DecidableEq, Repr

def Srv.init : Srv := ⟨[], []⟩

/-- Flags of a response, given what remains pending afterwards:
    `more_results_in_region = false` only when nothing is pending in the region;
    `more_results = false` only when nothing is pending and nothing lies beyond. -/
def flagsOk (r : Resp) (pending : List (List Cell)) (last : Bool) : Bool :=
  (r.moreInRegion || pending == []) && (r.moreResults || (pending == [] && last))

/-- The acceptor: may a conforming HBase answer the request of `e` with the reply of `e` in
    state `v`?  (`none`: no.)  Error replies are not produced by a conforming server; the
    asynchronous close has no observable reply. -/
def Srv.step (table : List Row) (splits : List Bytes) (sc : Scan) (v : Srv) (e : Exch) : Option Srv :=
  match e.req.kind, e.reply with
  | .open, some (.resp g r) =>
    match locate splits e.req.startRow, r.scannerId with
    | some g', some id =>
      if g' = g ∧ id ∉ v.used then
        let rows := regionRows table g sc.reversed e.req.startRow e.req.stopRow
        let last := (beyond table g sc.reversed e.req.startRow e.req.stopRow).isEmpty
        match chunk (rows.map Row.frag) r.results with
        | some p =>
          if flagsOk r p last then
            if r.moreInRegion && !e.req.closeFlag
            then some ⟨⟨id, g, p, last⟩ :: v.scanners, id :: v.used⟩
            else some ⟨v.scanners, id :: v.used⟩
          else none
        | none => none
      else none
    | _, _ => none
  | .cont, some (.resp g r) =>
    match v.scanners.find? (fun x => some x.id == e.req.id) with
    | some x =>
      if x.reg = g then
        match chunk x.pending r.results with
        | some p =>
          if flagsOk r p x.last then
            let others := v.scanners.filter (fun y => y.id != x.id)
            if r.moreInRegion && !e.req.closeFlag
            then some ⟨{ x with pending := p } :: others, v.used⟩
            else some ⟨others, v.used⟩
          else none
        | none => none
      else none
    | none => none
  | .close, none => some ⟨v.scanners.filter (fun y => some y.id != e.req.id), v.used⟩
  | _, _ => none

def Srv.run (table : List Row) (splits : List Bytes) (sc : Scan) : Srv → List Exch → Option Srv
  | v, [] => some v
  | v, e :: es =>
    match Srv.step table splits sc v e with
    | some v' => Srv.run table splits sc v' es
    | none => none

/-- `Env.Scan`: the exchanges (oldest first) are a possible conversation with a conforming
    HBase serving `table` split at `splits`. -/
def Conforming (table : List Row) (splits : List Bytes) (sc : Scan) (es : List Exch) : Prop :=
  (Srv.run table splits sc Srv.init es).isSome

instance (table : List Row) (splits : List Bytes) (sc : Scan) (es : List Exch) :
    Decidable (Conforming table splits sc es) := by
  unfold Conforming; infer_instance

/-- Table keys strictly increasing. -/
def sortedKeys : List Row → Bool
  | [] => true
  | [_] => true
  | a :: b :: rest => blt a.key b.key && sortedKeys (b :: rest)

/-- A row key contains `rowPadding` (eight `0xff`) as a contiguous run. -/
def hasPadding : Bytes → Bool
  | [] => false
  | b :: bs => (Gen.Wire.rowPadding.isPrefixOf (b :: bs)) || hasPadding bs

/-- The property's quantifier: a well-formed layout, a table sorted by (distinct, non-empty)
    row keys none of which contains `rowPadding` (eight `0xff`), 1..k cells per row, a scan
    without `CloseScanner`, reversed scans with an explicit start row. -/
structure ScanHyps (table : List Row) (splits : List Bytes) (sc : Scan) : Prop where
  splitsOk : splitsOk [] splits = true
  sorted : sortedKeys table = true
  keys : ∀ r ∈ table, r.key ≠ [] ∧ hasPadding r.key = false
  cells : ∀ r ∈ table, r.cells ≠ []
  notClosing : sc.closing = false
  revStart : sc.reversed = true → sc.start ≠ []


end GV.Scanner
