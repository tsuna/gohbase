import GohbaseVerif.Basic
/-!
`bytes.Compare` (`bcmp`) is core's lexicographic `compare` on `List UInt8`, hence a lawful linear
order by core's instances.  The models write `a < b` as `bcmp a b = .lt`, `a ≤ b` as `bcmp a b ≠ .gt`.
-/
namespace GV

theorem bcmp_cons_cons (x y : UInt8) (a b : Bytes) :
    bcmp (x :: a) (y :: b) = (compare x y).then (bcmp a b) := by
  rw [bcmp]
  rcases Std.lt_trichotomy x y with h | rfl | h
  · rw [if_pos h, Std.compare_eq_lt.mpr h]; rfl
  · rw [if_neg (UInt8.lt_irrefl x), if_neg (UInt8.lt_irrefl x), Std.compare_self]; rfl
  · rw [if_neg (UInt8.lt_asymm h), if_pos h, Std.compare_eq_gt.mpr h]; rfl

theorem bcmp_cons_self (x : UInt8) (a b : Bytes) : bcmp (x :: a) (x :: b) = bcmp a b := by
  rw [bcmp_cons_cons, Std.compare_self]; rfl

theorem bcmp_cons_lt {x y : UInt8} (h : x < y) (a b : Bytes) : bcmp (x :: a) (y :: b) = .lt := by
  rw [bcmp_cons_cons, Std.compare_eq_lt.mpr h]; rfl

theorem bcmp_cons_gt {x y : UInt8} (h : y < x) (a b : Bytes) : bcmp (x :: a) (y :: b) = .gt := by
  rw [bcmp_cons_cons, Std.compare_eq_gt.mpr h]; rfl

theorem bcmp_eq_compare (a b : Bytes) : bcmp a b = compare a b := by
  induction a generalizing b with
  | nil => cases b <;> rfl
  | cons x xs ih =>
    cases b with
    | nil => rfl
    | cons y ys => rw [bcmp_cons_cons, List.compare_cons_cons, ih]

@[simp] theorem bcmp_refl (a : Bytes) : bcmp a a = .eq := by
  rw [bcmp_eq_compare]; exact Std.ReflCmp.compare_self

theorem bcmp_eq_iff {a b : Bytes} : bcmp a b = .eq ↔ a = b := by
  rw [bcmp_eq_compare]; exact Std.compare_eq_iff_eq

theorem bcmp_swap (a b : Bytes) : bcmp b a = (bcmp a b).swap := by
  rw [bcmp_eq_compare, bcmp_eq_compare]; exact Std.OrientedCmp.eq_swap

theorem bcmp_gt_iff_lt (a b : Bytes) : bcmp a b = .gt ↔ bcmp b a = .lt := by
  rw [bcmp_eq_compare, bcmp_eq_compare]; exact Std.OrientedCmp.gt_iff_lt

theorem bcmp_trans_lt {a b c : Bytes} (h1 : bcmp a b = .lt) (h2 : bcmp b c = .lt) :
    bcmp a c = .lt := by
  rw [bcmp_eq_compare] at *; exact Std.TransCmp.lt_trans h1 h2

theorem bcmp_lt_of_lt_of_le {a b c : Bytes} (h1 : bcmp a b = .lt) (h2 : bcmp b c ≠ .gt) :
    bcmp a c = .lt := by
  rw [bcmp_eq_compare] at *; exact Std.TransCmp.lt_of_lt_of_isLE h1 (Ordering.ne_gt_iff_isLE.mp h2)

theorem bcmp_lt_of_le_of_lt {a b c : Bytes} (h1 : bcmp a b ≠ .gt) (h2 : bcmp b c = .lt) :
    bcmp a c = .lt := by
  rw [bcmp_eq_compare] at *; exact Std.TransCmp.lt_of_isLE_of_lt (Ordering.ne_gt_iff_isLE.mp h1) h2

theorem bcmp_le_trans {a b c : Bytes} (h1 : bcmp a b ≠ .gt) (h2 : bcmp b c ≠ .gt) :
    bcmp a c ≠ .gt := by
  rw [bcmp_eq_compare] at *
  exact Ordering.ne_gt_iff_isLE.mpr
    (Std.TransCmp.isLE_trans (Ordering.ne_gt_iff_isLE.mp h1) (Ordering.ne_gt_iff_isLE.mp h2))

theorem bcmp_ne_gt_iff (a b : Bytes) : bcmp a b ≠ .gt ↔ bcmp a b = .lt ∨ a = b := by
  rw [← bcmp_eq_iff]; cases bcmp a b <;> simp

theorem bcmp_le_antisymm {a b : Bytes} (h1 : bcmp a b ≠ .gt) (h2 : bcmp b a ≠ .gt) : a = b :=
  ((bcmp_ne_gt_iff a b).mp h1).resolve_left fun h => h2 ((bcmp_gt_iff_lt b a).mpr h)

theorem bcmp_total (a b : Bytes) : bcmp a b = .lt ∨ a = b ∨ bcmp b a = .lt := by
  rw [← bcmp_eq_iff, ← bcmp_gt_iff_lt a b]; cases bcmp a b <;> simp

theorem bcmp_le_total (a b : Bytes) : bcmp a b ≠ .gt ∨ bcmp b a = .lt := by
  rw [← bcmp_gt_iff_lt a b]; cases bcmp a b <;> simp

theorem bcmp_lt_asymm {a b : Bytes} (h : bcmp a b = .lt) : bcmp b a = .gt :=
  (bcmp_gt_iff_lt b a).mpr h

theorem bcmp_lt_irrefl (a : Bytes) : bcmp a a ≠ .lt := by simp

theorem bcmp_gt_iff_lt' (a b : Bytes) : bcmp a b = .gt ↔ bcmp b a = .lt := bcmp_gt_iff_lt a b

theorem bcmp_lt_not_le {a b : Bytes} (h : bcmp a b = .lt) : ¬ bcmp b a ≠ .gt :=
  fun h' => h' (bcmp_lt_asymm h)

theorem bcmp_le_not_lt {a b : Bytes} (h : bcmp a b ≠ .gt) : bcmp b a ≠ .lt :=
  fun h' => h (bcmp_lt_asymm h')

theorem bcmp_nil_left (b : Bytes) : bcmp [] b = .lt ∨ b = [] := by
  cases b <;> simp [bcmp]

theorem bcmp_nil_le (b : Bytes) : bcmp [] b ≠ .gt := by cases b <;> simp [bcmp]

theorem bcmp_lt_nil (a : Bytes) : bcmp a [] ≠ .lt := by cases a <;> simp [bcmp]

theorem bcmp_append_left (p a b : Bytes) : bcmp (p ++ a) (p ++ b) = bcmp a b := by
  induction p with
  | nil => rfl
  | cons x xs ih => rw [List.cons_append, List.cons_append, bcmp_cons_self, ih]

theorem bcmp_take_le_iff (s k : Bytes) (n : Nat) (h : s.length ≤ n) :
    bcmp s (k.take n) ≠ .gt ↔ bcmp s k ≠ .gt := by
  induction s generalizing k n with
  | nil => simp [bcmp_nil_le]
  | cons x xs ih =>
    cases n with
    | zero => simp at h
    | succ m =>
      cases k with
      | nil => simp
      | cons y ys =>
        rw [List.take_succ_cons, bcmp_cons_cons, bcmp_cons_cons]
        cases compare x y
        · exact Iff.rfl
        · exact ih ys m (Nat.le_of_succ_le_succ h)
        · exact Iff.rfl

theorem bcmp_take_le (k : Bytes) (n : Nat) : bcmp (k.take n) k ≠ .gt :=
  (bcmp_take_le_iff _ k n (List.length_take_le n k)).mp (by simp)

end GV
