import GohbaseVerif.Basic
import GohbaseVerif.Gen.Wire
/-!
# HBase RPC framing as written by `region/client.go`

Model of `sendHello`, `marshalProto`, `registerRPC` (call-id allocation) and of the `Write`
calls `send` issues, plus the decoder a server runs on the byte stream (`parseHello`,
`parseFrame`, `parseStream`) and the interleavings of several senders' writes.

The protobuf byte encoding is opaque and trusted: a frame is a header *payload*, a request
*payload* (both `Bytes`, produced by a `PBCodec` that is a parameter, never an axiom) and the
trailing cellblock bytes.  Only the framing around the payloads (4-byte big-endian total,
`protowire` varint delimiters) is modelled byte for byte.
Core Lean only (the driver links against this file).
-/
namespace GV.Frame
open GV

/-! ### `protowire` varints -/

/-- `protowire.AppendVarint` with `fuel` bytes still allowed. -/
def varintEncAux : Nat → Nat → Bytes
  | 0, _ => []
  | f + 1, n =>
    if n < 128 then [UInt8.ofNat n]
    else UInt8.ofNat (n % 128 + 128) :: varintEncAux f (n / 128)

/-- `protowire.AppendVarint(nil, uint64(n))`: little-endian base-128; a `uint64` takes at most
10 bytes (the `% 2^64` is Go's conversion to `uint64`). -/
def varintEnc (n : Nat) : Bytes := varintEncAux 10 (n % 2 ^ 64)

/-- `protowire.ConsumeVarint` with `fuel` bytes still allowed (10 at the start): the 10th byte
must be 0 or 1, a missing terminator is an error. Non-minimal encodings are accepted. -/
def varintDecAux : Nat → Nat → Nat → Bytes → Outcome (Nat × Bytes)
  | 0, _, _, _ => .err "varint-overflow"
  | _ + 1, _, _, [] => .err "varint-truncated"
  | f + 1, sh, acc, b :: bs =>
    if b.toNat < 128 then
      if f = 0 ∧ 1 < b.toNat then .err "varint-overflow"
      else .ok (acc + b.toNat * 2 ^ sh, bs)
    else
      if f = 0 then .err "varint-overflow"
      else varintDecAux f (sh + 7) (acc + (b.toNat - 128) * 2 ^ sh) bs

/-- `protowire.ConsumeVarint`: value and the remaining bytes. -/
def varintDec (b : Bytes) : Outcome (Nat × Bytes) := varintDecAux 10 0 0 b

/-- `protowire.SizeVarint`. -/
def varintSize (n : Nat) : Nat := (varintEnc n).length

/-! ### Delimited payloads and frames -/

/-- `protowire.AppendVarint(b, len(p)); append(b, p...)`. -/
def delimited (p : Bytes) : Bytes := varintEnc p.length ++ p

/-- `protowire.ConsumeBytes`-style read of one delimited payload. -/
def readDelimited (b : Bytes) : Outcome (Bytes × Bytes) :=
  match varintDec b with
  | .ok (n, rest) =>
    if rest.length < n then .err "delimited-truncated" else .ok (rest.take n, rest.drop n)
  | .err c => .err c
  | .fault w => .fault w

/-- The buffer `marshalProto` returns for a header payload `h`, a request payload `r` and a
cellblock length: 4-byte big-endian `uint32(protobufLen) + cellblocksLen`, then the two
delimited payloads. (`proto.Size` is modelled as the length of the marshalled payload: the Go
code panics when they differ.) -/
def marshalProto (h r : Bytes) (cbLen : Nat) : Bytes :=
  let pb := delimited h ++ delimited r
  toBE 4 ((pb.length % 2 ^ 32 + cbLen % 2 ^ 32) % 2 ^ 32) ++ pb

/-- A whole frame on the wire: the marshalled buffer followed by the cellblock bytes. -/
def marshal (h r cbs : Bytes) : Bytes := marshalProto h r cbs.length ++ cbs

/-- Number of bytes the length prefix of `marshal h r cbs` has to announce. -/
def bodyLen (h r cbs : Bytes) : Nat := (delimited h).length + (delimited r).length + cbs.length

structure RawFrame where
  header : Bytes
  request : Bytes
  cellblocks : Bytes
  deriving Repr, DecidableEq

def RawFrame.bytes (f : RawFrame) : Bytes := marshal f.header f.request f.cellblocks
def RawFrame.bodyLen (f : RawFrame) : Nat := Frame.bodyLen f.header f.request f.cellblocks

/-- What a server does with the head of the stream: read the 4-byte length, take that many
bytes, split them into delimited header, delimited request and the trailing cellblock.
Returns header payload, request payload, cellblock bytes, rest of the stream. -/
def parseFrame (b : Bytes) : Outcome (Bytes × Bytes × Bytes × Bytes) :=
  if b.length < 4 then .err "frame-truncated-length" else
  let total := beNat (b.take 4)
  let b1 := b.drop 4
  if b1.length < total then .err "frame-truncated-body" else
  let body := b1.take total
  let rest := b1.drop total
  match readDelimited body with
  | .ok (h, body1) =>
    match readDelimited body1 with
    | .ok (r, cbs) => .ok (h, r, cbs, rest)
    | .err c => .err ("request-" ++ c)
    | .fault w => .fault w
  | .err c => .err ("header-" ++ c)
  | .fault w => .fault w

/-- Frames until the stream is exhausted; `fuel` ≥ number of frames + 1 (every frame takes at
least 4 bytes, so `length + 1` always suffices: `parseFrames_flatten`). -/
def parseFramesAux : Nat → Bytes → Outcome (List RawFrame)
  | 0, _ => .fault "fuel"
  | _ + 1, [] => .ok []
  | f + 1, b@(_ :: _) =>
    match parseFrame b with
    | .ok (h, r, cbs, rest) =>
      match parseFramesAux f rest with
      | .ok fs => .ok (⟨h, r, cbs⟩ :: fs)
      | .err c => .err c
      | .fault w => .fault w
    | .err c => .err c
    | .fault w => .fault w

def parseFrames (b : Bytes) : Outcome (List RawFrame) := parseFramesAux (b.length + 1) b

/-! ### Connection preamble and header -/

/-- `sendHello`: `"HBas\x00\x50"`, 4-byte big-endian length of the marshalled
`ConnectionHeader`, the payload. One `Write`. -/
def hello (payload : Bytes) : Bytes :=
  Gen.Wire.preamble ++ toBE 4 (payload.length % 2 ^ 32) ++ payload

def parseHello (b : Bytes) : Outcome (Bytes × Bytes) :=
  let n := Gen.Wire.preamble.length
  if b.take n ≠ Gen.Wire.preamble then .err "bad-preamble" else
  let b1 := b.drop n
  if b1.length < 4 then .err "hello-truncated-length" else
  let len := beNat (b1.take 4)
  let b2 := b1.drop 4
  if b2.length < len then .err "hello-truncated-body" else
  .ok (b2.take len, b2.drop len)

/-- The whole connection as a server reads it: preamble + connection header, then frames. -/
def parseStream (b : Bytes) : Outcome (Bytes × List RawFrame) :=
  match parseHello b with
  | .ok (p, rest) =>
    match parseFrames rest with
    | .ok fs => .ok (p, fs)
    | .err c => .err c
    | .fault w => .fault w
  | .err c => .err c
  | .fault w => .fault w

/-! ### Structured header, protobuf as a parameter -/

/-- `pb.RequestHeader` as filled by `marshalProto`. -/
structure ReqHeader where
  callId : Nat
  methodName : Bytes
  requestParam : Bool
  priority : Option Nat
  cellBlockMeta : Option Nat
  deriving Repr, DecidableEq

/-- The header `marshalProto` builds: priority only when `> 0`, `CellBlockMeta` only when the
cellblock length is `> 0`. -/
def mkHeader (callId : Nat) (method : Bytes) (priority cbLen : Nat) : ReqHeader :=
  { callId := callId, methodName := method, requestParam := true,
    priority := if 0 < priority then some priority else none,
    cellBlockMeta := if 0 < cbLen then some cbLen else none }

/-- The assumed contract of the protobuf library for one message type: a marshaller and an
unmarshaller. `Lawful` (`Unmarshal ∘ Marshal = id`) is a *hypothesis* of the theorems. -/
structure PBCodec (α : Type) where
  marshal : α → Bytes
  unmarshal : Bytes → Option α

def PBCodec.Lawful {α} (c : PBCodec α) : Prop := ∀ a, c.unmarshal (c.marshal a) = some a

/-- `marshalProto` + cellblocks for structured header fields and a structured request. -/
def marshalMsg {ρ} (ch : PBCodec ReqHeader) (cr : PBCodec ρ)
    (callId : Nat) (method : Bytes) (priority : Nat) (req : ρ) (cbs : Bytes) : Bytes :=
  marshal (ch.marshal (mkHeader callId method priority cbs.length)) (cr.marshal req) cbs

/-- Server side: frame, then `Unmarshal` of both payloads. -/
def parseMsg {ρ} (ch : PBCodec ReqHeader) (cr : PBCodec ρ) (b : Bytes) :
    Outcome (ReqHeader × ρ × Bytes × Bytes) :=
  match parseFrame b with
  | .ok (h, r, cbs, rest) =>
    match ch.unmarshal h, cr.unmarshal r with
    | some hd, some rq => .ok (hd, rq, cbs, rest)
    | none, _ => .err "header-unmarshal"
    | _, none => .err "request-unmarshal"
  | .err c => .err c
  | .fault w => .fault w

/-- What the header says about the cellblock agrees with the bytes that trail the request:
`CellBlockMeta` is present iff there are trailing bytes, and its length is their number. -/
def metaOk (hd : ReqHeader) (cbs : Bytes) : Bool :=
  match hd.cellBlockMeta with
  | none => cbs.length == 0
  | some n => 0 < n && n == cbs.length

/-! ### Call ids -/

/-- `atomic.AddUint32(&c.id, 1)`: new counter value, which is the id handed out. -/
def nextId (s : Nat) : Nat := (s + 1) % 2 ^ 32

/-- The ids of `n` successive `registerRPC` calls starting from counter value `s`. -/
def allocIds : Nat → Nat → List Nat
  | _, 0 => []
  | s, n + 1 => nextId s :: allocIds (nextId s) n

/-! ### The `Write` calls of `send` -/

inductive ConnKind where
  /-- `*net.TCPConn`: `net.Buffers.WriteTo` is one `writev`. -/
  | tcp
  /-- any other `net.Conn` (custom dialer): `net.Buffers.WriteTo` is one `Write` per buffer. -/
  | other
  deriving Repr, DecidableEq

/-- The units (single atomic writes as seen by the connection) `send` emits for one request:
`b` is the marshalled buffer, `cellblocks = none` the `cellblocks == nil` branch (`c.write(b)`),
`some bufs` the `net.Buffers{b, bufs…}.WriteTo(conn)` branch. -/
def sendUnits (k : ConnKind) (b : Bytes) (cellblocks : Option (List Bytes)) : List Bytes :=
  match cellblocks with
  | none => [b]
  | some bufs =>
    match k with
    | .tcp => [b ++ bufs.flatten]
    | .other => b :: bufs

/-- The units of a frame given as payloads and cellblock buffers. -/
def frameUnits (k : ConnKind) (h r : Bytes) (cellblocks : Option (List Bytes)) : List Bytes :=
  sendUnits k (marshalProto h r (cellblocks.getD []).flatten.length) cellblocks

/-- One request as `send` has it in hand: marshalled header and request payloads and the
cellblock buffers (`none`: the `cellblocks == nil` branch). -/
structure SendReq where
  header : Bytes
  request : Bytes
  cellblocks : Option (List Bytes)
  deriving Repr, DecidableEq

/-- The frame a server should read for it. -/
def SendReq.raw (q : SendReq) : RawFrame := ⟨q.header, q.request, (q.cellblocks.getD []).flatten⟩

/-- The `Write` units `send` emits for it on a connection of kind `k`. -/
def SendReq.units (k : ConnKind) (q : SendReq) : List Bytes :=
  frameUnits k q.header q.request q.cellblocks

/-! ### Interleavings of concurrent senders -/

/-- All merges of two sequences that keep each sequence's own order. -/
def interleave2 {α} : List α → List α → List (List α)
  | [], ys => [ys]
  | xs, [] => [xs]
  | x :: xs, y :: ys =>
    (interleave2 xs (y :: ys)).map (x :: ·) ++ (interleave2 (x :: xs) ys).map (y :: ·)

/-- All interleavings of the senders' sequences (each sender's own order is kept). -/
def interleavings {α} : List (List α) → List (List α)
  | [] => [[]]
  | s :: ss => (interleavings ss).flatMap (interleave2 s)

end GV.Frame
