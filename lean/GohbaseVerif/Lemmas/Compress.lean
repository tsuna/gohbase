import GohbaseVerif.Model.Compress
import GohbaseVerif.Lemmas.BigEndian
/-! Compression framing (C15, C11).  A byte string begins with a complete length-prefixed item or it
does not (`NoItem`); the client's two loops and the reference parser are given once on these shapes,
and a theorem about the client's loops is an induction along that view (`chunkLoop_induction`,
`stream_induction`); what the reference parser alone guarantees goes by its own `fun_induction`. -/
namespace GV.Compress
open GV

/-! ### readers by shape -/

theorem readUint32_append {v : Nat} (hv : v < U32) (rest : Bytes) :
    readUint32 (toBE 4 v ++ rest) = .ok (v, rest) := by
  rw [readUint32_of_le (by simp), take_toBE_append, drop_toBE_append, beNat_toBE_of_lt hv]

theorem readN_append (x rest : Bytes) : readN (x ++ rest) x.length = .ok (x, rest) := by
  rw [readN_of_le (by simp), List.take_left' rfl, List.drop_left' rfl]

theorem readUint32_ok_append {b : Bytes} {v : Nat} {t : Bytes} (e : readUint32 b = .ok (v, t)) :
    v < U32 ∧ b = toBE 4 v ++ t := by
  obtain ⟨h4, rfl, rfl⟩ := readUint32_ok e
  exact ⟨beNat_take_lt b 4, eq_toBE_append h4⟩

theorem readUint32_lt {b : Bytes} {v : Nat} {t : Bytes} (e : readUint32 b = .ok (v, t)) : v < U32 :=
  (readUint32_ok_append e).1

namespace Spec

theorem be32?_eq_readUint32 (s : Bytes) : be32? s = outOpt (readUint32 s) := by
  match s with
  | a :: b :: c :: d :: rest =>
    rw [readUint32_of_le (by simp)]
    simp [be32?, beNat, outOpt]
    omega
  | [] | [_] | [_, _] | [_, _, _] => rfl

theorem be32?_append {v : Nat} (hv : v < U32) (rest : Bytes) : be32? (toBE 4 v ++ rest) = some (v, rest) := by
  rw [be32?_eq_readUint32, readUint32_append hv]; rfl

theorem be32?_of_lt {s : Bytes} (h : s.length < 4) : be32? s = none := by
  rw [be32?_eq_readUint32, readUint32_of_lt h]; rfl

end Spec

/-! ### the view -/

/-- No complete item at the head: too short for the 4-byte length, or shorter than it announces. -/
def NoItem (b : Bytes) : Prop := b.length < 4 ∨ (b.drop 4).length < beNat (b.take 4)

theorem items_induction {motive : Bytes → Prop}
    (noItem : ∀ b, NoItem b → motive b)
    (item : ∀ x t, x.length < U32 → motive t → motive (toBE 4 x.length ++ (x ++ t)))
    (b : Bytes) : motive b := by
  induction hn : b.length using Nat.strongRecOn generalizing b with
  | _ k ih =>
    by_cases hb : NoItem b
    · exact noItem b hb
    · have ⟨h4, hc⟩ := not_or.mp hb
      have hlt : beNat (b.take 4) < U32 := beNat_take_lt b 4
      rw [eq_toBE_append (Nat.le_of_not_lt h4)]
      generalize beNat (b.take 4) = n at hlt hc
      have hx : ((b.drop 4).take n).length = n := by
        rw [List.length_take, Nat.min_eq_left (Nat.le_of_not_lt hc)]
      have hshorter : ((b.drop 4).drop n).length < k := by
        rw [List.length_drop, List.length_drop]; omega
      have := item ((b.drop 4).take n) ((b.drop 4).drop n) (by rwa [hx]) (ih _ hshorter _ rfl)
      rwa [hx, List.take_append_drop] at this

/-! ### one iteration: inner loop, chunk parser

The loops are defined with `match h : …` (the termination proofs need the equations), so their own
unfolding lemmas carry those proofs along; the `_step` lemmas are the same bodies without them. -/

theorem chunkLoop_step (c : Codec) (L soFar : Nat) (b out : Bytes) :
    chunkLoop c L soFar b out =
      if soFar < L then
        match readUint32 b with
        | .err _ => .err "chunk-len"
        | .fault w => .fault w
        | .ok (cl, b1) =>
          match readN b1 cl with
          | .err _ => .err "chunk"
          | .fault w => .fault w
          | .ok (chunk, b2) =>
            match c.decode chunk with
            | none => .err "decode"
            | some d => chunkLoop c L ((soFar + d.length % U32) % U32) b2 (out ++ d)
      else .ok (soFar, b, out) := by
  fun_cases chunkLoop c L soFar b out <;> simp only [*, if_true, if_false]

theorem Spec.parseChunks_step (c : Codec) (remaining : Nat) (s : Bytes) :
    Spec.parseChunks c remaining s =
      if remaining = 0 then some ([], s) else
      match Spec.be32? s with
      | none => none
      | some (cl, s1) =>
        if s1.length < cl then none else
        match c.decode (s1.take cl) with
        | none => none
        | some d =>
          if remaining < d.length then none else
          match Spec.parseChunks c (remaining - d.length) (s1.drop cl) with
          | none => none
          | some (ps, rest) => some (d :: ps, rest) := by
  fun_cases Spec.parseChunks c remaining s <;> simp only [*, if_true, if_false]

section
variable {c : Codec} {L soFar r : Nat}

theorem chunkLoop_done (h : ¬ soFar < L) (b out : Bytes) :
    chunkLoop c L soFar b out = .ok (soFar, b, out) := by
  rw [chunkLoop_step, if_neg h]

theorem chunkLoop_noItem (h : soFar < L) {b : Bytes} (hb : NoItem b) (out : Bytes) :
    chunkLoop c L soFar b out = .err (if b.length < 4 then "chunk-len" else "chunk") := by
  rw [chunkLoop_step, if_pos h]
  by_cases h4 : b.length < 4
  · rw [readUint32_of_lt h4, if_pos h4]
  · rw [readUint32_of_le (Nat.le_of_not_lt h4), if_neg h4]
    simp only [readN_of_lt (hb.resolve_left h4)]

theorem chunkLoop_item (h : soFar < L) {x : Bytes} (hx : x.length < U32) (t out : Bytes) :
    chunkLoop c L soFar (toBE 4 x.length ++ (x ++ t)) out =
      match c.decode x with
      | none => .err "decode"
      | some d => chunkLoop c L ((soFar + d.length % U32) % U32) t (out ++ d) := by
  rw [chunkLoop_step, if_pos h, readUint32_append hx]
  simp only [readN_append]

theorem chunkLoop_item_ok (h : soFar < L) {x : Bytes} (hx : x.length < U32) {t out : Bytes} {st : ChunkState}
    (e : chunkLoop c L soFar (toBE 4 x.length ++ (x ++ t)) out = .ok st) :
    ∃ d, c.decode x = some d ∧ chunkLoop c L ((soFar + d.length % U32) % U32) t (out ++ d) = .ok st := by
  rw [chunkLoop_item h hx] at e
  cases hd : c.decode x with
  | none => rw [hd] at e; cases e
  | some d => rw [hd] at e; exact ⟨d, rfl, e⟩

theorem Spec.parseChunks_zero (s : Bytes) : Spec.parseChunks c 0 s = some ([], s) := by
  rw [Spec.parseChunks_step, if_pos rfl]

theorem Spec.parseChunks_noItem (hr : r ≠ 0) {s : Bytes} (hs : NoItem s) : Spec.parseChunks c r s = none := by
  rw [Spec.parseChunks_step, if_neg hr, Spec.be32?_eq_readUint32]
  by_cases h4 : s.length < 4
  · rw [readUint32_of_lt h4]; rfl
  · rw [readUint32_of_le (Nat.le_of_not_lt h4)]
    simp only [outOpt, if_pos (hs.resolve_left h4)]

theorem Spec.parseChunks_item (hr : r ≠ 0) {x : Bytes} (hx : x.length < U32) (t : Bytes) :
    Spec.parseChunks c r (toBE 4 x.length ++ (x ++ t)) =
      match c.decode x with
      | none => none
      | some d =>
        if r < d.length then none else
        match Spec.parseChunks c (r - d.length) t with
        | none => none
        | some (ps, rest) => some (d :: ps, rest) := by
  rw [Spec.parseChunks_step, if_neg hr, Spec.be32?_append hx]
  simp only [List.length_append, Nat.not_lt.mpr (Nat.le_add_right _ _), if_false, List.take_left' rfl,
    List.drop_left' rfl]

end

theorem chunkLoop_induction {L : Nat} {motive : Nat → Bytes → Prop}
    (done : ∀ sf b, ¬ sf < L → motive sf b)
    (noItem : ∀ sf b, sf < L → NoItem b → motive sf b)
    (item : ∀ sf x t, sf < L → x.length < U32 → (∀ sf', motive sf' t) →
      motive sf (toBE 4 x.length ++ (x ++ t)))
    (sf : Nat) (b : Bytes) : motive sf b := by
  induction b using items_induction generalizing sf with
  | noItem b hb => exact if h : sf < L then noItem sf b h hb else done sf b h
  | item x t hx ih => exact if h : sf < L then item sf x t h hx ih else done sf _ h

theorem Spec.parseChunks_sum (c : Codec) (r : Nat) (s : Bytes) {ps : List Bytes} {rest : Bytes}
    (e : Spec.parseChunks c r s = some (ps, rest)) : ps.flatten.length = r := by
  fun_induction Spec.parseChunks c r s generalizing ps
  case case1 => cases e; rfl                      -- nothing owed
  case case7 hle _ _ hrec ih =>                   -- a chunk, then the rest
    cases e
    rw [List.flatten_cons, List.length_append, ih hrec]
    omega
  all_goals cases e                               -- `none`

/-! ### one iteration: outer loop, stream parser -/

theorem blockLoop_step (c : Codec) (b out : Bytes) :
    blockLoop c b out =
      if b.length = 0 then .ok out else
      match readUint32 b with
      | .err _ => .err "block-len"
      | .fault w => .fault w
      | .ok (blockLen, b1) =>
        match chunkLoop c blockLen 0 b1 out with
        | .err e => .err e
        | .fault w => .fault w
        | .ok (soFar, b2, out') =>
          if soFar > blockLen then .err "more" else blockLoop c b2 out' := by
  fun_cases blockLoop c b out <;> simp only [*, if_true, if_false]

theorem Spec.parseStream_step (c : Codec) (s : Bytes) :
    Spec.parseStream c s =
      if s.length = 0 then some [] else
      match Spec.be32? s with
      | none => none
      | some (raw, s1) =>
        match Spec.parseChunks c raw s1 with
        | none => none
        | some (ps, rest) =>
          match Spec.parseStream c rest with
          | none => none
          | some bs => some (⟨raw, ps⟩ :: bs) := by
  fun_cases Spec.parseStream c s <;> simp only [*, if_true, if_false]

section
variable {c : Codec}

theorem blockLoop_nil (out : Bytes) : blockLoop c [] out = .ok out := by
  rw [blockLoop_step]; rfl

theorem blockLoop_short {b : Bytes} (h0 : b ≠ []) (hb : b.length < 4) (out : Bytes) :
    blockLoop c b out = .err "block-len" := by
  rw [blockLoop_step, if_neg (by simpa using h0), readUint32_of_lt hb]

theorem blockLoop_block {L : Nat} (hL : L < U32) (t out : Bytes) :
    blockLoop c (toBE 4 L ++ t) out =
      match chunkLoop c L 0 t out with
      | .err e => .err e
      | .fault w => .fault w
      | .ok (soFar, b2, out') => if soFar > L then .err "more" else blockLoop c b2 out' := by
  rw [blockLoop_step, if_neg (by simp), readUint32_append hL]

theorem Spec.parseStream_nil : Spec.parseStream c [] = some [] := by
  rw [Spec.parseStream_step]; rfl

theorem Spec.parseStream_short {s : Bytes} (h0 : s ≠ []) (hs : s.length < 4) : Spec.parseStream c s = none := by
  rw [Spec.parseStream_step, if_neg (by simpa using h0), Spec.be32?_of_lt hs]

theorem Spec.parseStream_block {L : Nat} (hL : L < U32) (t : Bytes) :
    Spec.parseStream c (toBE 4 L ++ t) =
      match Spec.parseChunks c L t with
      | none => none
      | some (ps, rest) =>
        match Spec.parseStream c rest with
        | none => none
        | some bs => some (⟨L, ps⟩ :: bs) := by
  rw [Spec.parseStream_step, if_neg (by simp), Spec.be32?_append hL]

end

/-- The induction hypothesis is for whatever a block leaves unread (`chunkLoop_rest_le`,
`parseChunks_rest_le`: never longer than what followed its length field). -/
theorem stream_induction {motive : Bytes → Prop} (nil : motive [])
    (short : ∀ b, b ≠ [] → b.length < 4 → motive b)
    (block : ∀ L t, L < U32 → (∀ t' : Bytes, t'.length ≤ t.length → motive t') → motive (toBE 4 L ++ t))
    (b : Bytes) : motive b := by
  induction hn : b.length using Nat.strongRecOn generalizing b with
  | _ k ih =>
    by_cases h0 : b = []
    · exact h0 ▸ nil
    · by_cases h4 : b.length < 4
      · exact short b h0 h4
      · rw [eq_toBE_append (Nat.le_of_not_lt h4)]
        refine block _ _ (beNat_take_lt b 4) fun t' ht' => ih _ ?_ t' rfl
        rw [List.length_drop] at ht'; omega

/-! ### the client never faults -/

theorem chunkLoop_no_fault (c : Codec) (L soFar : Nat) (b out : Bytes) :
    (chunkLoop c L soFar b out).isFault = false := by
  induction soFar, b using chunkLoop_induction (L := L) generalizing out with
  | done sf b h => rw [chunkLoop_done h]; rfl
  | noItem sf b h hb => rw [chunkLoop_noItem h hb]; rfl
  | item sf x t h hx ih =>
    rw [chunkLoop_item h hx]
    cases c.decode x with
    | none => rfl
    | some d => exact ih _ _

theorem blockLoop_no_fault (c : Codec) (b out : Bytes) : (blockLoop c b out).isFault = false := by
  induction b using stream_induction generalizing out with
  | nil => rw [blockLoop_nil]; rfl
  | short b h0 hb => rw [blockLoop_short h0 hb]; rfl
  | block L t hL ih =>
    rw [blockLoop_block hL]
    have nf := chunkLoop_no_fault c L 0 t out
    cases hcl : chunkLoop c L 0 t out with
    | err e => rfl
    | fault w => rw [hcl] at nf; cases nf
    | ok st =>
      simp only
      split
      · rfl
      · exact ih _ (chunkLoop_rest_le _ _ _ _ _ hcl) _

/-! ### accepted streams -/

/-- A successful run has read whole chunks `chs` (compressed, decoded) and counted the decoded bytes
modulo 2^32. -/
theorem chunkLoop_ok_chunks (c : Codec) (L soFar : Nat) (hsf : soFar < U32) (b out : Bytes) {sf' : Nat}
    {rest out' : Bytes} (e : chunkLoop c L soFar b out = .ok (sf', rest, out')) :
    ∃ chs : List (Bytes × Bytes),
      b = (chs.map fun ch => toBE 4 ch.1.length ++ ch.1).flatten ++ rest ∧
      (∀ ch ∈ chs, ch.1.length < U32 ∧ c.decode ch.1 = some ch.2) ∧
      out' = out ++ (chs.map (·.2)).flatten ∧
      sf' = (soFar + (chs.map (·.2)).flatten.length) % U32 ∧ ¬ sf' < L := by
  induction soFar, b using chunkLoop_induction (L := L) generalizing out with
  | done sf b h =>
    rw [chunkLoop_done h] at e
    cases e
    -- no chunk read: `b = rest`, `out' = out`, the count as it was
    exact ⟨[], by simp, by simp, by simp, by simp [Nat.mod_eq_of_lt hsf], h⟩
  | noItem sf b h hb => rw [chunkLoop_noItem h hb] at e; cases e
  | item sf x t h hx ih =>
    obtain ⟨d, hd, e⟩ := chunkLoop_item_ok h hx e
    obtain ⟨chs, hb, hvalid, hout, hcount, hend⟩ := ih _ (Nat.mod_lt _ (by decide)) _ e
    refine ⟨(x, d) :: chs, by simp [← hb], List.forall_mem_cons.mpr ⟨⟨hx, hd⟩, hvalid⟩, by simp [hout], ?_, hend⟩
    rw [hcount, Nat.add_mod_mod, Nat.mod_add_mod, Nat.add_assoc, List.map_cons, List.flatten_cons,
      List.length_append]

theorem blockLoop_ok_blocks (c : Codec) (b out d : Bytes) (e : blockLoop c b out = .ok d) :
    ∃ fbs : List Spec.FBlock,
      b = Spec.frameStream fbs ∧ (∀ fb ∈ fbs, fb.Valid c) ∧
      d = out ++ (fbs.map Spec.FBlock.data).flatten ∧
      ∀ fb ∈ fbs, fb.data.length % U32 = fb.rawLen := by
  induction b using stream_induction generalizing out with
  | nil => rw [blockLoop_nil] at e; cases e; exact ⟨[], rfl, by simp, by simp, by simp⟩
  | short b h0 hb => rw [blockLoop_short h0 hb] at e; cases e
  | block L t hL ih =>
    rw [blockLoop_block hL] at e
    split at e
    · cases e
    · cases e
    · rename_i sf b2 out' hcl
      split at e
      · cases e
      · rename_i hgt
        obtain ⟨chs, ht, hvalid, hout, hcount, hend⟩ := chunkLoop_ok_chunks c L 0 (by decide) t out hcl
        obtain ⟨fbs, rfl, fvalid, fout, flen⟩ := ih b2 (chunkLoop_rest_le _ _ _ _ _ hcl) _ e
        rw [Nat.zero_add] at hcount
        refine ⟨⟨L, chs⟩ :: fbs, ?_, List.forall_mem_cons.mpr ⟨⟨hL, hvalid⟩, fvalid⟩, ?_,
          List.forall_mem_cons.mpr ⟨?_, flen⟩⟩
        · rw [ht]; simp [Spec.frameStream, Spec.FBlock.frame]
        · rw [fout, hout]; simp [Spec.FBlock.data]
        · -- the count ended neither below nor above the declared length
          exact hcount ▸ Nat.le_antisymm (Nat.le_of_not_lt hgt) (Nat.le_of_not_lt hend)

/-! ### the client accepts what the reference parser accepts -/

theorem add_mod_of_lt {a n m : Nat} (h : a + n < m) : (a + n % m) % m = a + n := by
  rw [Nat.mod_eq_of_lt (Nat.lt_of_le_of_lt (Nat.le_add_left n a) h), Nat.mod_eq_of_lt h]

theorem chunkLoop_of_parseChunks (c : Codec) {L : Nat} (hL : L < U32) (soFar : Nat) (hle : soFar ≤ L)
    (b out : Bytes) {ps : List Bytes} {rest : Bytes}
    (e : Spec.parseChunks c (L - soFar) b = some (ps, rest)) :
    chunkLoop c L soFar b out = .ok (L, rest, out ++ ps.flatten) := by
  induction soFar, b using chunkLoop_induction (L := L) generalizing out ps with
  | done sf b h =>
    obtain rfl : sf = L := Nat.le_antisymm hle (Nat.le_of_not_lt h)
    rw [Nat.sub_self, Spec.parseChunks_zero] at e
    cases e
    rw [chunkLoop_done h, List.flatten_nil, List.append_nil]
  | noItem sf b h hb => rw [Spec.parseChunks_noItem (Nat.sub_ne_zero_of_lt h) hb] at e; cases e
  | item sf x t h hx ih =>
    rw [Spec.parseChunks_item (Nat.sub_ne_zero_of_lt h) hx] at e
    rw [chunkLoop_item h hx]
    cases hd : c.decode x with
    | none => rw [hd] at e; cases e
    | some d =>
      rw [hd] at e
      simp only at e ⊢
      split at e
      · cases e
      · rename_i hdl
        -- what was decoded fits what the block still owes: the count stays ≤ L < 2^32, no wrap
        have hle' : sf + d.length ≤ L := by omega
        rw [add_mod_of_lt (Nat.lt_of_le_of_lt hle' hL)]
        split at e
        · cases e
        · rename_i ps' rest' hp
          cases e
          rw [ih (sf + d.length) hle' (out ++ d) (by rwa [Nat.sub_add_eq]), List.flatten_cons,
            List.append_assoc]

theorem blockLoop_of_parseChunks (c : Codec) {L : Nat} (hL : L < U32) {t : Bytes} {ps : List Bytes} {rest : Bytes}
    (e : Spec.parseChunks c L t = some (ps, rest)) (out : Bytes) :
    blockLoop c (toBE 4 L ++ t) out = blockLoop c rest (out ++ ps.flatten) := by
  rw [blockLoop_block hL, chunkLoop_of_parseChunks c hL 0 (Nat.zero_le L) t out e]
  exact if_neg (Nat.lt_irrefl L)

theorem blockLoop_of_parseStream (c : Codec) (b out : Bytes) {bs : List Spec.PBlock}
    (e : Spec.parseStream c b = some bs) :
    blockLoop c b out = .ok (out ++ (bs.map fun pb => pb.pieces.flatten).flatten) := by
  induction b using stream_induction generalizing out bs with
  | nil => rw [Spec.parseStream_nil] at e; cases e; rw [blockLoop_nil]; simp
  | short b h0 hb => rw [Spec.parseStream_short h0 hb] at e; cases e
  | block L t hL ih =>
    rw [Spec.parseStream_block hL] at e
    split at e
    · cases e
    · rename_i ps rest hp
      rw [blockLoop_of_parseChunks c hL hp]
      split at e
      · cases e
      · rename_i bs' hs
        cases e
        rw [ih rest (Spec.parseChunks_rest_le _ _ _ hp) _ hs]
        simp

/-! ### … and nothing else while the count cannot wrap -/

/-- A block the reference parser rejects makes the inner loop fail or overshoot. -/
theorem chunkLoop_of_parseChunks_none (c : Codec) (R : Nat) (hexp : c.ExpandsAtMost R) (L soFar : Nat)
    (b out : Bytes) (hb : soFar + R * b.length < U32)
    (e : Spec.parseChunks c (L - soFar) b = none) {sf' : Nat} {rest out' : Bytes}
    (ok : chunkLoop c L soFar b out = .ok (sf', rest, out')) : L < sf' := by
  induction soFar, b using chunkLoop_induction (L := L) generalizing out with
  | done sf b h =>
    rw [Nat.sub_eq_zero_of_le (Nat.le_of_not_lt h), Spec.parseChunks_zero] at e; cases e
  | noItem sf b h hs => rw [chunkLoop_noItem h hs] at ok; cases ok
  | item sf x t h hx ih =>
    rw [Spec.parseChunks_item (Nat.sub_ne_zero_of_lt h) hx] at e
    obtain ⟨d, hd, ok⟩ := chunkLoop_item_ok h hx ok
    rw [hd] at e
    simp only at e
    -- `|d| ≤ R·|x|`, and the input is 4 + |x| + |t| bytes long
    have hb' : sf + d.length + R * t.length < U32 := by
      have hdl := hexp _ _ hd
      rw [List.length_append, List.length_append, Nat.mul_add, Nat.mul_add] at hb
      omega
    rw [add_mod_of_lt (Nat.lt_of_le_of_lt (Nat.le_add_right _ _) hb')] at ok
    split at e
    · -- overshoot: the loop ends above `L`
      rename_i hover
      have hover : L < sf + d.length := by omega
      rw [chunkLoop_done (Nat.lt_asymm hover)] at ok
      cases ok
      exact hover
    · split at e
      · exact ih (sf + d.length) _ hb' (by rwa [Nat.sub_add_eq]) ok
      · cases e

theorem blockLoop_of_parseStream_none (c : Codec) (R : Nat) (hexp : c.ExpandsAtMost R) (b out : Bytes)
    (hb : R * b.length < U32) (e : Spec.parseStream c b = none) : ∃ e', blockLoop c b out = .err e' := by
  induction b using stream_induction generalizing out with
  | nil => rw [Spec.parseStream_nil] at e; cases e
  | short b h0 hs => exact ⟨_, blockLoop_short h0 hs out⟩
  | block L t hL ih =>
    rw [Spec.parseStream_block hL] at e
    simp only [List.length_append, length_toBE, Nat.mul_add] at hb
    split at e
    · rename_i hp
      rw [blockLoop_block hL]
      have nf := chunkLoop_no_fault c L 0 t out
      cases hcl : chunkLoop c L 0 t out with
      | err x => exact ⟨_, rfl⟩
      | fault w => rw [hcl] at nf; cases nf
      | ok st =>
        obtain ⟨sf, b2, out'⟩ := st
        exact ⟨_, if_pos (chunkLoop_of_parseChunks_none c R hexp L 0 t out (by omega) hp hcl)⟩
    · rename_i ps rest hp
      rw [blockLoop_of_parseChunks c hL hp]
      have hr := Spec.parseChunks_rest_le _ _ _ hp
      have := Nat.mul_le_mul_left R hr
      split at e
      · rename_i hs; exact ih rest hr _ (by omega) hs
      · cases e

/-! ### truncation -/

theorem noItem_take {x : Bytes} (hx : x.length < U32) (t : Bytes) {m : Nat} (hm : m < 4 + x.length) :
    NoItem ((toBE 4 x.length ++ (x ++ t)).take m) := by
  by_cases h4 : m < 4
  · exact .inl (Nat.lt_of_le_of_lt (List.length_take_le _ _) h4)
  · refine .inr ?_
    rw [List.take_take, Nat.min_eq_left (Nat.le_of_not_lt h4), take_toBE_append, beNat_toBE_of_lt hx,
      List.length_drop, List.length_take]
    omega

theorem take_item {x : Bytes} (t : Bytes) {m : Nat} (hm : 4 + x.length ≤ m) :
    (toBE 4 x.length ++ (x ++ t)).take m = toBE 4 x.length ++ (x ++ t.take (m - 4 - x.length)) := by
  have h4 : (toBE 4 x.length).length ≤ m := by rw [length_toBE]; exact Nat.le_trans (Nat.le_add_right _ _) hm
  rw [List.take_append, List.take_of_length_le h4, length_toBE, List.take_append,
    List.take_of_length_le (Nat.le_sub_of_add_le' hm)]

/-- A cut anywhere inside what a successful run has read makes the run fail. -/
theorem chunkLoop_take (c : Codec) (L soFar : Nat) (b out : Bytes) {sf' : Nat} {rest out' : Bytes}
    (e : chunkLoop c L soFar b out = .ok (sf', rest, out')) {m : Nat} (hm : m + rest.length < b.length) :
    ∃ e', chunkLoop c L soFar (b.take m) out = .err e' := by
  induction soFar, b using chunkLoop_induction (L := L) generalizing out m with
  | done sf b h => rw [chunkLoop_done h] at e; cases e; exact absurd hm (Nat.not_lt.mpr (Nat.le_add_left _ _))
  | noItem sf b h hb => rw [chunkLoop_noItem h hb] at e; cases e
  | item sf x t h hx ih =>
    obtain ⟨d, hd, e⟩ := chunkLoop_item_ok h hx e
    by_cases hc : m < 4 + x.length
    · exact ⟨_, chunkLoop_noItem h (noItem_take hx t hc) _⟩
    · rw [take_item t (Nat.le_of_not_lt hc), chunkLoop_item h hx, hd]
      simp only [List.length_append, length_toBE] at hm
      exact ih _ _ e (by omega)

theorem blockLoop_take_block (c : Codec) {L : Nat} (hL : L < U32) (t out : Bytes) {sf' : Nat} {rest out' : Bytes}
    (e : chunkLoop c L 0 t out = .ok (sf', rest, out')) {m : Nat} (h0 : 0 < m)
    (hm : m + rest.length < 4 + t.length) :
    ∃ e', blockLoop c ((toBE 4 L ++ t).take m) out = .err e' := by
  by_cases h4 : m < 4
  · have hlen : ((toBE 4 L ++ t).take m).length = m := by
      rw [List.length_take, List.length_append, length_toBE]
      exact Nat.min_eq_left (Nat.le_trans (Nat.le_of_lt h4) (Nat.le_add_right 4 _))
    exact ⟨_, blockLoop_short (List.ne_nil_of_length_pos (by rwa [hlen])) (by rwa [hlen]) out⟩
  · have h4 := Nat.le_of_not_lt h4
    rw [List.take_append, List.take_of_length_le (length_toBE 4 L ▸ h4), length_toBE, blockLoop_block hL]
    obtain ⟨e', he⟩ := chunkLoop_take c L 0 t out e (m := m - 4) (by omega)
    exact ⟨e', by rw [he]⟩

/-! ### encoder -/

namespace Spec

theorem chunksOf_eq_nil {k : Nat} {s : Bytes} (h : k = 0 ∨ s = []) : chunksOf k s = [] := by
  rw [chunksOf, dif_pos h]

theorem chunksOf_nil (k : Nat) : chunksOf k [] = [] := chunksOf_eq_nil (.inr rfl)

theorem chunksOf_zero (s : Bytes) : chunksOf 0 s = [] := chunksOf_eq_nil (.inl rfl)

theorem chunksOf_cons {k : Nat} {s : Bytes} (hk : k ≠ 0) (hs : s ≠ []) :
    chunksOf k s = s.take k :: chunksOf k (s.drop k) := by
  rw [chunksOf, dif_neg (not_or.mpr ⟨hk, hs⟩)]

theorem chunksOf_of_le {k : Nat} {s : Bytes} (hs : s ≠ []) (h : s.length ≤ k) : chunksOf k s = [s] := by
  have hk : k ≠ 0 := fun e => hs (List.length_eq_zero_iff.mp (by omega))
  rw [chunksOf_cons hk hs, List.take_of_length_le h, List.drop_eq_nil_of_le h, chunksOf_nil]

/-- The buffer of `compressCellblocks` has `min uncompressedLen chunkLen` bytes. -/
theorem chunksOf_min (n : Nat) (s : Bytes) : chunksOf (min s.length n) s = chunksOf n s := by
  by_cases hs : s = []
  · rw [hs, chunksOf_nil, chunksOf_nil]
  · by_cases h : s.length ≤ n
    · rw [Nat.min_eq_left h, chunksOf_of_le hs (Nat.le_refl _), chunksOf_of_le hs h]
    · rw [Nat.min_eq_right (Nat.le_of_not_le h)]

theorem chunksOf_flatten {k : Nat} (hk : k ≠ 0) (s : Bytes) : (chunksOf k s).flatten = s := by
  fun_induction chunksOf k s
  case case1 h => exact (h.resolve_left hk).symm ▸ rfl
  case case2 ih => rw [List.flatten_cons, ih, List.take_append_drop]

theorem chunksOf_mem {k : Nat} {s p : Bytes} (hp : p ∈ chunksOf k s) : p ≠ [] ∧ p.length ≤ k := by
  fun_induction chunksOf k s
  case case1 => cases hp
  case case2 s h ih =>
    rcases List.mem_cons.mp hp with rfl | hp
    · exact ⟨by simpa [(not_or.mp h).1] using (not_or.mp h).2, List.length_take_le k s⟩
    · exact ih hp

theorem chunksOf_init_last {k : Nat} (hk : k ≠ 0) {s : Bytes} (hs : s ≠ []) :
    ∃ init last, chunksOf k s = init ++ [last] ∧ ∀ p ∈ init, p.length = k := by
  fun_induction chunksOf k s
  case case1 h => exact absurd (h.resolve_left hk) hs
  case case2 s h ih =>
    by_cases hd : s.drop k = []
    · exact ⟨[], s.take k, by rw [hd, chunksOf_nil]; rfl, nofun⟩
    · obtain ⟨init, last, e, hi⟩ := ih hd
      refine ⟨s.take k :: init, last, by rw [e]; rfl, fun p hp => ?_⟩
      rcases List.mem_cons.mp hp with rfl | hp
      · -- more follows, so this piece is a full one
        have := List.length_pos_iff.mpr hd
        rw [List.length_drop] at this
        rw [List.length_take]; omega
      · exact hi p hp

end Spec

theorem compressLoop_eq (c : Codec) (k : Nat) (v : List Bytes) (b : Bytes) :
    compressLoop c k v b = b ++ ((Spec.chunksOf k v.flatten).map (Spec.encChunk c)).flatten := by
  have hdata (v : List Bytes) : (Buffers.read v k).data = v.flatten.take k := (readLoop_spec v k).1
  have hrest (v : List Bytes) : (Buffers.read v k).rest.flatten = v.flatten.drop k := (readLoop_spec v k).2
  -- a non-empty piece was read: neither the payload nor the buffer is empty
  have hcons (v : List Bytes) (h : ¬ (Buffers.read v k).data = []) :
      Spec.chunksOf k v.flatten = (Buffers.read v k).data :: Spec.chunksOf k (Buffers.read v k).rest.flatten := by
    rw [hdata, List.take_eq_nil_iff, not_or] at h
    rw [hdata, hrest, Spec.chunksOf_cons h.1 h.2]
  fun_induction compressLoop c k v b
  case case1 v b r h =>                           -- nothing read: `k = 0` or no bytes left
    rw [hdata, List.take_eq_nil_iff] at h
    rw [Spec.chunksOf_eq_nil h, List.map_nil, List.flatten_nil, List.append_nil]
  case case2 v b r h enc b' heof =>               -- the last piece
    have : r.rest = [] := List.isEmpty_iff.mp heof
    rw [hcons v h, this, List.flatten_nil, Spec.chunksOf_nil]
    simp [b', enc, r, Spec.encChunk]
  case case3 v b r h enc b' heof ih =>            -- a piece, and more to come
    rw [ih, hcons v h]
    simp [b', enc, r, Spec.encChunk]

theorem compress_eq_encode (c : Codec) (hc : 0 < c.chunkLen) (bufs : List Bytes) :
    compressCellblocks c bufs bufs.flatten.length = Spec.encode c [Spec.chunksOf c.chunkLen bufs.flatten] := by
  rw [compressCellblocks, compressLoop_eq, Spec.chunksOf_min]
  simp [Spec.encode, Spec.encBlock, Spec.chunksOf_flatten (Nat.ne_of_gt hc)]

theorem Spec.encode_cons (c : Codec) (ps : Spec.Pieces) (bs : List Spec.Pieces) :
    Spec.encode c (ps :: bs) =
      toBE 4 ps.flatten.length ++ ((ps.map (Spec.encChunk c)).flatten ++ Spec.encode c bs) := by
  simp only [Spec.encode, Spec.encBlock, List.map_cons, List.flatten_cons, List.append_assoc]

theorem Spec.encode_single (c : Codec) (p : Bytes) :
    Spec.encode c [[p]] = toBE 4 p.length ++ (toBE 4 (c.encode p).length ++ c.encode p) := by
  simp only [Spec.encode, Spec.encBlock, Spec.encChunk, List.map_cons, List.map_nil, List.flatten_cons,
    List.flatten_nil, List.append_nil]

/-- Byte `8 + j` of a one-chunk stream is byte `j` of the chunk: two 4-byte length fields precede it. -/
theorem Spec.set_encode_single (c : Codec) (p : Bytes) (j : Nat) (v : UInt8) :
    (Spec.encode c [[p]]).set (8 + j) v =
      toBE 4 p.length ++ (toBE 4 (c.encode p).length ++ (c.encode p).set j v) := by
  rw [Spec.encode_single, show 8 + j = 4 + (4 + j) from Nat.add_assoc 4 4 j, set_toBE_append, set_toBE_append]

theorem compress_of_le (c : Codec) (hc : 0 < c.chunkLen) {p : Bytes} (hp : p ≠ []) (hpc : p.length ≤ c.chunkLen) :
    compressCellblocks c [p] p.length = Spec.encode c [[p]] := by
  have := compress_eq_encode c hc [p]
  rwa [List.flatten_singleton, Spec.chunksOf_of_le hp hpc] at this

theorem wellSized_chunksOf (c : Codec) {k : Nat} (hk : k ≠ 0)
    (hfit : ∀ p : Bytes, p.length ≤ k → (c.encode p).length < U32) {s : Bytes} (hs : s.length < U32) :
    Spec.WellSized c [Spec.chunksOf k s] := by
  intro ps hps
  obtain rfl := List.mem_singleton.mp hps
  rw [Spec.chunksOf_flatten hk]
  exact ⟨hs, fun p hp => have := Spec.chunksOf_mem hp; ⟨this.1, hfit p this.2⟩⟩

/-! ### round trip -/

theorem Spec.parseChunks_pieces (c : Codec) (hrt : c.Roundtrip) (ps : List Bytes)
    (hps : ∀ p ∈ ps, p ≠ [] ∧ (c.encode p).length < U32) (tail : Bytes) :
    Spec.parseChunks c ps.flatten.length ((ps.map (Spec.encChunk c)).flatten ++ tail) = some (ps, tail) := by
  induction ps with
  | nil => exact Spec.parseChunks_zero tail
  | cons p ps ih =>
    obtain ⟨⟨hp, hfit⟩, hps⟩ := List.forall_mem_cons.mp hps
    have hpl : 0 < p.length := List.length_pos_iff.mpr hp
    simp only [List.map_cons, List.flatten_cons, Spec.encChunk, List.append_assoc, List.length_append]
    rw [Spec.parseChunks_item (by omega) hfit, hrt p]
    simp only [Nat.not_lt.mpr (Nat.le_add_right _ _), if_false, Nat.add_sub_cancel_left, ih hps]

theorem Spec.parseStream_encode (c : Codec) (hrt : c.Roundtrip) (bs : List Spec.Pieces)
    (hws : Spec.WellSized c bs) :
    Spec.parseStream c (Spec.encode c bs) = some (bs.map fun ps => ⟨ps.flatten.length, ps⟩) := by
  induction bs with
  | nil => exact Spec.parseStream_nil
  | cons ps bs ih =>
    obtain ⟨⟨hL, hps⟩, hws⟩ := List.forall_mem_cons.mp hws
    rw [Spec.encode_cons, Spec.parseStream_block hL, Spec.parseChunks_pieces c hrt ps hps]
    simp only [ih hws, List.map_cons]

theorem blockLoop_encode (c : Codec) (hrt : c.Roundtrip) (bs : List Spec.Pieces)
    (hws : Spec.WellSized c bs) (tail out : Bytes) :
    blockLoop c (Spec.encode c bs ++ tail) out = blockLoop c tail (out ++ Spec.rawData bs) := by
  induction bs generalizing out with
  | nil => simp [Spec.encode, Spec.rawData]
  | cons ps bs ih =>
    obtain ⟨⟨hL, hps⟩, hws⟩ := List.forall_mem_cons.mp hws
    rw [Spec.encode_cons, List.append_assoc, List.append_assoc,
      blockLoop_of_parseChunks c hL (Spec.parseChunks_pieces c hrt ps hps _), ih hws]
    simp [Spec.rawData]

end GV.Compress
