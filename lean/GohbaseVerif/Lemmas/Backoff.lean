import GohbaseVerif.Gen.Backoff
/-! What the retry loops (C17, `SendBatch`) need of the regenerated `sleepAndIncreaseBackoff`. -/
namespace GV.Gen.Backoff

theorem backoffStart_pos : 0 < backoffStart := by decide

theorem beforeWait_of_ne_zero {b : Int} (h : b ≠ 0) : beforeWait b = b := if_neg h

theorem beforeWait_zero : beforeWait 0 = backoffStart := if_pos rfl

theorem le_nextBackoff {b : Int} (h : 0 < b) : b ≤ nextBackoff b := by
  unfold nextBackoff
  split
  · omega
  · split <;> omega

theorem nextBackoff_pos {b : Int} (h : 0 < b) : 0 < nextBackoff b := Int.lt_of_lt_of_le h (le_nextBackoff h)

end GV.Gen.Backoff
