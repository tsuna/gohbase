import GohbaseVerif.Model.Frame
import GohbaseVerif.Lemmas.BigEndian
/-! Each parser of `Model/Frame.lean` reads back what its printer wrote and leaves what follows
(`parse (print x ++ rest) = ok (x, rest)`), so that they compose. -/
namespace GV.Frame
open GV

/-- Seven bits per byte, and the last allowed byte may only be 0 or 1 (`f = 9`: the 64 bits of a `uint64`). -/
theorem varintDecAux_enc (f : Nat) (n sh acc : Nat) (rest : Bytes) (hn : n < 2 ^ (7 * f + 1)) :
    varintDecAux (f + 1) sh acc (varintEncAux (f + 1) n ++ rest) = .ok (acc + n * 2 ^ sh, rest) := by
  induction f generalizing n sh acc with
  | zero =>
    have h2 : n < 2 := hn
    have h128 : n < 128 := Nat.lt_trans h2 (by decide)
    rw [varintEncAux, if_pos h128, List.singleton_append, varintDecAux,
      UInt8.toNat_ofNat_of_lt' (Nat.lt_trans h128 (by decide)), if_pos h128,
      if_neg fun h => Nat.not_lt.mpr (Nat.le_of_lt_succ h2) h.2]
  | succ f ih =>
    rw [varintEncAux]
    split
    · rename_i h
      rw [List.singleton_append, varintDecAux, UInt8.toNat_ofNat_of_lt' (Nat.lt_trans h (by decide)), if_pos h,
        if_neg fun h => Nat.succ_ne_zero f h.1]
    · rename_i h
      have hdiv : n / 128 < 2 ^ (7 * f + 1) := by
        rw [Nat.div_lt_iff_lt_mul (by decide)]
        rwa [show 7 * (f + 1) + 1 = 7 * f + 1 + 7 by omega, Nat.pow_add] at hn
      have hb : n % 128 + 128 < 256 := Nat.add_lt_add_right (Nat.mod_lt n (by decide)) 128
      rw [List.cons_append, varintDecAux, UInt8.toNat_ofNat_of_lt' hb,
        if_neg (Nat.not_lt.mpr (Nat.le_add_left _ _)), if_neg (Nat.succ_ne_zero f), ih _ _ _ hdiv,
        Nat.add_sub_cancel]
      -- `n = n % 128 + 128 * (n / 128)`
      rw [Nat.add_assoc, Nat.pow_add, Nat.mul_comm (2 ^ sh), ← Nat.mul_assoc, ← Nat.add_mul,
        Nat.mul_comm (n / 128), show (2 : Nat) ^ 7 = 128 from rfl, Nat.mod_add_div]

theorem varintDec_enc (n : Nat) (rest : Bytes) (h : n < 2 ^ 64) :
    varintDec (varintEnc n ++ rest) = .ok (n, rest) := by
  rw [varintDec, varintEnc, Nat.mod_eq_of_lt h, varintDecAux_enc 9 n 0 0 rest h, Nat.pow_zero, Nat.mul_one,
    Nat.zero_add]

theorem varintEnc_length_pos (n : Nat) : 0 < (varintEnc n).length := by
  rw [varintEnc, varintEncAux]; split <;> simp

theorem varintEncAux_length_le (f n : Nat) : (varintEncAux f n).length ≤ f := by
  induction f generalizing n with
  | zero => simp [varintEncAux]
  | succ k ih =>
    rw [varintEncAux]
    split
    · simp
    · simp only [List.length_cons]
      have := ih (n / 128)
      omega

theorem readDelimited_delimited (p rest : Bytes) (h : p.length < 2 ^ 64) :
    readDelimited (delimited p ++ rest) = .ok (p, rest) := by
  rw [readDelimited, delimited, List.append_assoc, varintDec_enc _ _ h]
  simp only [List.length_append, Nat.not_lt.mpr (Nat.le_add_right _ _), if_false, List.take_left' rfl,
    List.drop_left' rfl]

theorem marshal_length (h r cbs : Bytes) : (marshal h r cbs).length = 4 + bodyLen h r cbs := by
  simp only [marshal, marshalProto, bodyLen, List.length_append, length_toBE, Nat.add_assoc]

theorem marshal_eq (h r cbs : Bytes) (hlen : bodyLen h r cbs < 2 ^ 32) :
    marshal h r cbs = toBE 4 (bodyLen h r cbs) ++ (delimited h ++ (delimited r ++ cbs)) := by
  have e : ((delimited h ++ delimited r).length % 2 ^ 32 + cbs.length % 2 ^ 32) % 2 ^ 32 = bodyLen h r cbs := by
    rw [← Nat.add_mod, List.length_append]
    exact Nat.mod_eq_of_lt hlen
  simp only [marshal, marshalProto, e, List.append_assoc]

theorem parseFrame_prefixed (body rest : Bytes) (hb : body.length < 2 ^ 32) :
    parseFrame (toBE 4 body.length ++ (body ++ rest)) =
      match readDelimited body with
      | .ok (h, body1) =>
        match readDelimited body1 with
        | .ok (r, cbs) => .ok (h, r, cbs, rest)
        | .err c => .err ("request-" ++ c)
        | .fault w => .fault w
      | .err c => .err ("header-" ++ c)
      | .fault w => .fault w := by
  simp only [parseFrame, take_toBE_append, drop_toBE_append, beNat_toBE_of_lt (show _ < 256 ^ 4 from hb),
    List.length_append, length_toBE, Nat.not_lt.mpr (Nat.le_add_right _ _), if_false, List.take_left' rfl,
    List.drop_left' rfl]
  rfl

theorem parseFrame_marshal (h r cbs rest : Bytes) (hlen : bodyLen h r cbs < 2 ^ 32) :
    parseFrame (marshal h r cbs ++ rest) = .ok (h, r, cbs, rest) := by
  -- a payload is shorter than the body, hence than 2^64
  have hh : h.length < 2 ^ 64 := by simp only [bodyLen, delimited, List.length_append] at hlen; omega
  have hr : r.length < 2 ^ 64 := by simp only [bodyLen, delimited, List.length_append] at hlen; omega
  have hbody : (delimited h ++ (delimited r ++ cbs)).length = bodyLen h r cbs := by
    simp only [bodyLen, List.length_append, Nat.add_assoc]
  rw [marshal_eq h r cbs hlen, List.append_assoc, ← hbody, parseFrame_prefixed _ _ (hbody ▸ hlen),
    readDelimited_delimited h _ hh]
  simp only [readDelimited_delimited r _ hr]

theorem parseFramesAux_cons (fuel : Nat) {b : Bytes} (hb : b ≠ []) :
    parseFramesAux (fuel + 1) b =
      match parseFrame b with
      | .ok (h, r, cbs, rest) =>
        match parseFramesAux fuel rest with
        | .ok fs => .ok (⟨h, r, cbs⟩ :: fs)
        | .err c => .err c
        | .fault w => .fault w
      | .err c => .err c
      | .fault w => .fault w := by
  cases b with
  | nil => exact absurd rfl hb
  | cons x xs => rw [parseFramesAux]; rfl

theorem parseFramesAux_flatten (fs : List RawFrame) (k : Nat) (hk : fs.length ≤ k)
    (hb : ∀ f ∈ fs, f.bodyLen < 2 ^ 32) :
    parseFramesAux (k + 1) (fs.map RawFrame.bytes).flatten = .ok fs := by
  induction fs generalizing k with
  | nil => rfl
  | cons f fs ih =>
    obtain ⟨j, rfl⟩ : ∃ j, k = j + 1 := ⟨k - 1, by rw [List.length_cons] at hk; omega⟩
    have hne : f.bytes ++ (fs.map RawFrame.bytes).flatten ≠ [] :=
      List.ne_nil_of_length_pos (by rw [List.length_append, RawFrame.bytes, marshal_length]; omega)
    rw [List.map_cons, List.flatten_cons, parseFramesAux_cons _ hne, RawFrame.bytes,
      parseFrame_marshal _ _ _ _ (hb f List.mem_cons_self)]
    simp only [ih j (Nat.le_of_succ_le_succ hk) fun g hg => hb g (List.mem_cons_of_mem _ hg)]

theorem length_le_flatten_bytes (fs : List RawFrame) :
    fs.length ≤ (fs.map RawFrame.bytes).flatten.length := by
  induction fs with
  | nil => exact Nat.le_refl _
  | cons f fs ih =>
    rw [List.map_cons, List.flatten_cons, List.length_append, List.length_cons, RawFrame.bytes, marshal_length]
    omega

theorem parseFrames_flatten (fs : List RawFrame) (hb : ∀ f ∈ fs, f.bodyLen < 2 ^ 32) :
    parseFrames (fs.map RawFrame.bytes).flatten = .ok fs :=
  parseFramesAux_flatten fs _ (length_le_flatten_bytes fs) hb

theorem preamble_length : Gen.Wire.preamble.length = 6 := by decide

theorem parseHello_hello (p rest : Bytes) (hp : p.length < 2 ^ 32) :
    parseHello (hello p ++ rest) = .ok (p, rest) := by
  simp only [parseHello, hello, Nat.mod_eq_of_lt hp, List.append_assoc, List.take_left' rfl, List.drop_left' rfl,
    take_toBE_append, drop_toBE_append, beNat_toBE_of_lt (show _ < 256 ^ 4 from hp), List.length_append,
    length_toBE, Nat.not_lt.mpr (Nat.le_add_right _ _), ne_eq, not_true_eq_false, if_false]

theorem allocIds_length (s n : Nat) : (allocIds s n).length = n := by
  induction n generalizing s with
  | zero => rfl
  | succ n ih => simp [allocIds, ih]

theorem allocIds_eq_range' (s n : Nat) (hn : s + n < 2 ^ 32) : allocIds s n = List.range' (s + 1) n := by
  induction n generalizing s with
  | zero => rfl
  | succ n ih =>
    have e : nextId s = s + 1 := Nat.mod_eq_of_lt (by omega)
    rw [allocIds, e, ih (s + 1) (by omega), List.range'_succ]

theorem interleave2_nil_right {α} (xs : List α) : interleave2 xs [] = [xs] := by
  cases xs <;> simp [interleave2]

theorem interleave2_map {α β} (f : α → β) (a b : List α) :
    interleave2 (a.map f) (b.map f) = (interleave2 a b).map (List.map f) := by
  fun_induction interleave2 a b with
  | case1 ys => simp [interleave2]
  | case2 xs h => simp [interleave2_nil_right]
  | case3 x xs y ys ih1 ih2 =>
    simp only [List.map_cons] at ih1 ih2 ⊢
    simp only [interleave2, ih1, ih2, List.map_append, List.map_map]
    congr 1

theorem interleavings_map {α β} (f : α → β) (ss : List (List α)) :
    interleavings (ss.map (List.map f)) = (interleavings ss).map (List.map f) := by
  induction ss with
  | nil => simp [interleavings]
  | cons s ss ih =>
    simp only [List.map_cons, interleavings, ih, List.flatMap_map, List.map_flatMap]
    congr 1
    funext t
    exact interleave2_map f s t

theorem perm_sublist_of_mem_interleave2 {α} (a b s : List α) (h : s ∈ interleave2 a b) :
    s.Perm (a ++ b) ∧ a.Sublist s ∧ b.Sublist s := by
  fun_induction interleave2 a b generalizing s with
  | case1 ys => simp at h; subst h; simp
  | case2 xs hx => simp at h; subst h; simp
  | case3 x xs y ys ih1 ih2 =>                    -- `s` starts with `x` or with `y`
    simp only [List.mem_append, List.mem_map] at h
    rcases h with ⟨t, ht, rfl⟩ | ⟨t, ht, rfl⟩
    · obtain ⟨p, s1, s2⟩ := ih1 t ht
      exact ⟨p.cons x, s1.cons_cons x, s2.cons x⟩
    · obtain ⟨p, s1, s2⟩ := ih2 t ht
      exact ⟨(p.cons y).trans List.perm_middle.symm, s1.cons y, s2.cons_cons y⟩

theorem perm_sublist_of_mem_interleavings {α} (ss : List (List α)) (s : List α) (h : s ∈ interleavings ss) :
    s.Perm ss.flatten ∧ ∀ a ∈ ss, a.Sublist s := by
  induction ss generalizing s with
  | nil => simp [interleavings] at h; subst h; simp
  | cons a ss ih =>
    simp only [interleavings, List.mem_flatMap] at h
    obtain ⟨t, ht, hs⟩ := h
    obtain ⟨p, s1, s2⟩ := perm_sublist_of_mem_interleave2 a t s hs
    obtain ⟨pt, st⟩ := ih t ht
    exact ⟨p.trans (pt.append_left a), List.forall_mem_cons.mpr ⟨s1, fun b hb => (st b hb).trans s2⟩⟩

theorem units_flatten (k : ConnKind) (q : SendReq) : (q.units k).flatten = q.raw.bytes := by
  unfold SendReq.units frameUnits sendUnits SendReq.raw RawFrame.bytes marshal
  cases hq : q.cellblocks with
  | none => simp
  | some bufs => cases k <;> simp

end GV.Frame
