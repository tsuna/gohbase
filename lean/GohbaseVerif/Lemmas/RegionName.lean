import GohbaseVerif.Model.RegionName
import GohbaseVerif.Lemmas.Bcmp
/-!
Go's `region.Compare` returns differences of bytes and of lengths; their signs are those of
`bytes.Compare`, loop by loop.
-/
namespace GV

theorem signOf_eq_compare (d : Int) : signOf d = compare d 0 := by
  rw [signOf]
  split
  · exact (Std.compare_eq_lt.mpr ‹_›).symm
  · split
    · exact (Std.compare_eq_gt.mpr ‹_›).symm
    · exact (Std.compare_eq_iff_eq.mpr (by omega)).symm

theorem signOf_lt_iff (d : Int) : signOf d = .lt ↔ d < 0 := by
  rw [signOf_eq_compare]; exact Std.compare_eq_lt

theorem signOf_gt_iff (d : Int) : signOf d = .gt ↔ 0 < d := by
  rw [signOf_eq_compare]; exact Std.compare_eq_gt

theorem signOf_eq_iff (d : Int) : signOf d = .eq ↔ d = 0 := by
  rw [signOf_eq_compare]; exact Std.compare_eq_iff_eq

theorem signOf_natSub (m n : Nat) :
    signOf ((m : Int) - n) = if m < n then .lt else if n < m then .gt else .eq := by
  have h1 : ((m : Int) - n < 0) ↔ m < n := by omega
  have h2 : (0 < (m : Int) - n) ↔ n < m := by omega
  simp only [signOf, h1, h2]

theorem bcmp_cons_ne {x y : UInt8} (h : x ≠ y) (a b : Bytes) :
    bcmp (x :: a) (y :: b) = signOf ((x.toNat : Int) - y.toNat) := by
  rw [signOf_natSub]
  rcases UInt8.lt_or_lt_of_ne h with h1 | h1
  · rw [bcmp_cons_lt h1, if_pos (UInt8.lt_iff_toNat_lt.mp h1)]
  · rw [bcmp_cons_gt h1, if_neg (fun e => UInt8.lt_asymm h1 (UInt8.lt_iff_toNat_lt.mpr e)),
      if_pos (UInt8.lt_iff_toNat_lt.mp h1)]

theorem then_of_ne_eq : ∀ {o p : Ordering}, o ≠ .eq → o.then p = o := by decide

end GV

namespace GV.RegionName
open GV

theorem cmpPrefix_bcmp (a b : Bytes) :
    bcmp a b = match cmpPrefix a b with
      | some d => signOf d
      | none => if a.length < b.length then .lt else if b.length < a.length then .gt else .eq := by
  induction a generalizing b with
  | nil => cases b <;> simp [bcmp, cmpPrefix]
  | cons x xs ih =>
    cases b with
    | nil => simp [bcmp, cmpPrefix]
    | cons y ys =>
      by_cases hxy : x = y
      · subst hxy
        simp only [cmpPrefix, ne_eq, not_true_eq_false, if_false, List.length_cons,
          Nat.add_lt_add_iff_right]
        rw [bcmp_cons_self, ih ys]
      · simp only [cmpPrefix, ne_eq, hxy, not_false_eq_true, if_true]
        exact bcmp_cons_ne hxy xs ys

theorem cmpPrefix_some_ne {a b : Bytes} {d : Int} (h : cmpPrefix a b = some d) :
    signOf d ≠ .eq := by
  fun_induction cmpPrefix a b with
  | case1 x xs y ys hxy =>
    injection h with h; subst h
    -- `signOf (x - y)` is `bcmp [x] [y]`, and that is `.eq` only for `[x] = [y]`
    rw [← bcmp_cons_ne hxy [] []]
    exact fun e => hxy (List.cons.inj (bcmp_eq_iff.mp e)).1
  | case2 x xs y ys hxy ih => exact ih h
  | case3 a b hne => cases h

theorem cmpPrefix_none_eq_len {a b : Bytes} (h : cmpPrefix a b = none)
    (hl : a.length = b.length) : a = b := by
  have := cmpPrefix_bcmp a b
  rw [h] at this
  simp [hl] at this
  exact bcmp_eq_iff.mp this

/-- First loop: on comma-free tables it either finds them equal and hands over the two remainders, or
decides, with the sign of `bcmp t1 t2`. -/
theorem phase1_tables (t1 t2 r1 r2 : Bytes) (h1 : comma ∉ t1) (h2 : comma ∉ t2) :
    (bcmp t1 t2 = .eq ∧ phase1 (t1 ++ comma :: r1) (t2 ++ comma :: r2) = .same r1 r2) ∨
    (∃ d, phase1 (t1 ++ comma :: r1) (t2 ++ comma :: r2) = .done d ∧ signOf d = bcmp t1 t2 ∧
      bcmp t1 t2 ≠ .eq) := by
  induction t1 generalizing t2 with
  | nil =>
    cases t2 with
    | nil => exact .inl ⟨rfl, by simp [phase1]⟩
    | cons y ys =>
      -- the shorter table name ends first: its `,` meets a byte of the longer one
      have hy : comma ≠ y := List.ne_of_not_mem_cons h2
      exact .inr ⟨-1001, by simp [phase1, hy], rfl, by simp [bcmp]⟩
  | cons x xs ih =>
    have hx : x ≠ comma := (List.ne_of_not_mem_cons h1).symm
    have hxs : comma ∉ xs := List.not_mem_of_not_mem_cons h1
    cases t2 with
    | nil => exact .inr ⟨1001, by simp [phase1, hx], rfl, by simp [bcmp]⟩
    | cons y ys =>
      have hy : y ≠ comma := (List.ne_of_not_mem_cons h2).symm
      have hys : comma ∉ ys := List.not_mem_of_not_mem_cons h2
      by_cases hxy : x = y
      · subst hxy
        simp only [List.cons_append, phase1, ne_eq, not_true_eq_false, if_false, hx,
          bcmp_cons_self]
        exact ih ys hxs hys
      · exact .inr ⟨_, by simp [phase1, hxy, hx, hy], (bcmp_cons_ne hxy _ _).symm,
          fun e => hxy (List.cons.inj (bcmp_eq_iff.mp e)).1⟩

theorem splitLastComma_nocomma (s : Bytes) (h : comma ∉ s) : splitLastComma s = none := by
  induction s with
  | nil => rfl
  | cons x xs ih =>
    have hx : x ≠ comma := (List.ne_of_not_mem_cons h).symm
    have hxs : comma ∉ xs := List.not_mem_of_not_mem_cons h
    simp [splitLastComma, ih hxs, hx]

theorem splitLastComma_key (k s : Bytes) (h : comma ∉ s) :
    splitLastComma (k ++ comma :: s) = some (k, s) := by
  induction k with
  | nil => simp [splitLastComma, splitLastComma_nocomma s h]
  | cons x xs ih => simp [splitLastComma, ih]

theorem compareName_done {a b : Bytes} {d : Int} (hp : phase1 a b = .done d) :
    compareName a b = .ok d := by
  rw [compareName, hp]

/-- Second and third loop: start keys, then (on equal start keys) id suffixes. -/
theorem compareName_same {a b ra rb ka sa kb sb : Bytes} (hp : phase1 a b = .same ra rb)
    (ha : splitLastComma ra = some (ka, sa)) (hb : splitLastComma rb = some (kb, sb)) :
    (compareName a b).map signOf = .ok ((bcmp ka kb).then (bcmp sa sb)) := by
  rw [compareName, hp]
  simp only [ha, hb]
  rw [cmpPrefix_bcmp ka kb, cmpPrefix_bcmp sa sb]
  cases hk : cmpPrefix ka kb with
  | some d =>
    -- a byte difference is not zero, so lengths and suffixes are not consulted
    exact congrArg Outcome.ok (then_of_ne_eq (cmpPrefix_some_ne hk)).symm
  | none =>
    by_cases h1 : ka.length < kb.length
    · simp only [if_pos h1]; rfl
    · by_cases h2 : kb.length < ka.length
      · simp only [if_neg h1, if_pos h2]; rfl
      · simp only [if_neg h1, if_neg h2]
        cases cmpPrefix sa sb with
        | some d => rfl
        | none => exact congrArg Outcome.ok (signOf_natSub _ _)

theorem lex3_eq_then (x y : Bytes × Bytes × Bytes) :
    lex3 x y = (bcmp x.1 y.1).then ((bcmp x.2.1 y.2.1).then (bcmp x.2.2 y.2.2)) := rfl

/-- The form in which core's `TransCmp` / `OrientedCmp` / `ReflCmp` instances apply to `lex3`. -/
theorem lex3_eq_compareLex :
    lex3 = compareLex (compareOn (·.1)) (compareLex (compareOn (·.2.1)) (compareOn (·.2.2))) := by
  funext x y
  simp only [lex3_eq_then, bcmp_eq_compare, compareLex, compareOn]

theorem lex3_lt_iff (a b c a' b' c' : Bytes) :
    lex3 (a, b, c) (a', b', c') = .lt ↔
      bcmp a a' = .lt ∨ (a = a' ∧ (bcmp b b' = .lt ∨ (b = b' ∧ bcmp c c' = .lt))) := by
  simp only [lex3_eq_then, Ordering.then_eq_lt, bcmp_eq_iff]

theorem lex3_gt_iff_lt (x y : Bytes × Bytes × Bytes) : lex3 x y = .gt ↔ lex3 y x = .lt := by
  rw [lex3_eq_compareLex]; exact Std.OrientedCmp.gt_iff_lt

end GV.RegionName
