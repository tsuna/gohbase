import GohbaseVerif.Model.Scanner
/-!
The coalescer on a plain stream of fragments (`assemble1`, `assembleAll`), and `chunk` (how a
conforming server may cut rows into fragments) against it: whatever the cut, the rows come back
whole (`assemble_chunk`).
-/
namespace GV.Scanner
open GV

theorem assemble1_acc_isSome (a : Frag) (X : List Frag) : (assemble1 (some a) X).isSome := by
  induction X generalizing a with
  | nil => simp [assemble1]
  | cons f fs ih =>
    simp only [assemble1]
    split
    · split
      · exact ih _
      · rfl
    · rfl

theorem assemble1_cons_isSome (acc : Option Frag) (f : Frag) (fs : List Frag) :
    (assemble1 acc (f :: fs)).isSome := by
  simp only [assemble1]
  split
  · split
    · exact assemble1_acc_isSome _ _
    · rfl
  · rfl

theorem assemble1_length (acc : Option Frag) (X : List Frag) (res : Frag) (X' : List Frag)
    (h : assemble1 acc X = some (res, X')) : X'.length ≤ X.length := by
  induction X generalizing acc with
  | nil =>
    cases acc <;> simp [assemble1] at h
    obtain ⟨-, rfl⟩ := h
    exact Nat.le_refl _
  | cons f fs ih =>
    simp only [assemble1] at h
    split at h
    · split at h
      · have := ih _ h; simp; omega
      · cases h; simp
    · cases h; simp

theorem assemble1_none_length (X : List Frag) (res : Frag) (X' : List Frag)
    (h : assemble1 none X = some (res, X')) : X'.length < X.length := by
  cases X with
  | nil => simp [assemble1] at h
  | cons f fs =>
    simp only [assemble1, coalesce, if_true] at h
    by_cases hp : f.part = true
    · simp only [hp, if_true] at h
      have := assemble1_length _ _ _ _ h; simp; omega
    · simp only [hp, Bool.false_eq_true, if_false] at h
      cases h; simp

theorem assembleAll_eq_assemble1 (acc : Option Frag) (X : List Frag) :
    assembleAll acc X = match assemble1 acc X with
      | none => []
      | some (r, X') => r :: assembleAll none X' := by
  induction X generalizing acc with
  | nil => cases acc <;> simp [assembleAll, assemble1]
  | cons f fs ih =>
    simp only [assembleAll, assemble1]
    by_cases hd : (coalesce acc f).2 = true
    · simp only [hd, if_true]
      by_cases hp : (coalesce acc f).1.part = true
      · simp only [hp, if_true]; exact ih _
      · simp [hp]
    · simp only [hd, Bool.false_eq_true, if_false]
      congr 1

/-- A row as the server holds it: non-empty, all cells carry the row key `k`. -/
def RowOk (k : Bytes) (r : List Cell) : Prop := r ≠ [] ∧ ∀ c ∈ r, c.row = k

/-- Every row is `RowOk` for some key, and that key is not the key of the row after it. -/
def RowsOk : List (List Cell) → Prop
  | [] => True
  | r :: T => (∃ k, RowOk k r ∧ ∀ r' ∈ T.head?, ¬ RowOk k r') ∧ RowsOk T

theorem firstRow_of_rowOk {k : Bytes} {r : List Cell} (h : RowOk k r) : firstRow r = some k := by
  obtain ⟨hne, hk⟩ := h
  cases r with
  | nil => exact absurd rfl hne
  | cons c cs => simp [firstRow, hk c (by simp)]

theorem rowOk_prefix {k : Bytes} {r p : List Cell} (h : RowOk k r) (hp : p ≠ []) (hpre : p <+: r) :
    RowOk k p :=
  ⟨hp, fun c hc => h.2 c (hpre.subset hc)⟩

theorem isNewRow_of_rowOk {k k' : Bytes} {r p : Frag} (hr : RowOk k r.cells) (hp : RowOk k' p.cells) :
    isNewRow r p = (k != k') := by
  simp [isNewRow, firstRow_of_rowOk hr, firstRow_of_rowOk hp]

theorem rowOk_key_unique {k k' : Bytes} {r : List Cell} (h : RowOk k r) (h' : RowOk k' r) : k = k' := by
  have := firstRow_of_rowOk h
  rw [firstRow_of_rowOk h'] at this
  injection this with this
  exact this.symm

theorem chunk_nil_frags (T : List (List Cell)) : chunk T [] = some T := by
  cases T <;> rfl

theorem chunk_cons_inv {row : List Cell} {T T' : List (List Cell)} {f : Frag} {fs : List Frag}
    (h : chunk (row :: T) (f :: fs) = some T') :
    f.cells ≠ [] ∧ ∃ rest, row = f.cells ++ rest ∧
      ((f.part = true ∧ rest ≠ [] ∧ chunk (rest :: T) fs = some T') ∨
       (f.part = false ∧ rest = [] ∧ chunk T fs = some T')) := by
  rw [chunk] at h
  by_cases hne : f.cells = []
  · rw [if_pos hne] at h; cases h
  · rw [if_neg hne] at h
    refine ⟨hne, ?_⟩
    cases hp : f.part with
    | true =>
      rw [hp, if_pos rfl] at h
      by_cases hc : f.cells.length < row.length ∧ row.take f.cells.length = f.cells
      · rw [if_pos hc] at h
        refine ⟨row.drop f.cells.length, ?_, .inl ⟨rfl, ?_, h⟩⟩
        · simpa [hc.2] using (List.take_append_drop f.cells.length row).symm
        · intro e; have := congrArg List.length e; simp at this; omega
      · rw [if_neg hc] at h; cases h
    | false =>
      rw [hp, if_neg (by simp)] at h
      by_cases hc : f.cells = row
      · rw [if_pos hc] at h
        exact ⟨[], by simp [hc], .inr ⟨rfl, rfl, h⟩⟩
      · rw [if_neg hc] at h; cases h

theorem chunk_append_append (T U : List (List Cell)) (fs gs : List Frag) (T' : List (List Cell))
    (h : chunk T fs = some T') : chunk (T ++ U) (fs ++ gs) = chunk (T' ++ U) gs := by
  -- a step of `chunk` looks only at the first row and the first fragment, so with `U` and `gs`
  -- appended it makes the steps of `chunk T fs`; where `fs` ends, `T' = T`
  fun_induction chunk T fs <;> simp_all [chunk]

theorem chunk_concat (T : List (List Cell)) (fs : List Frag) (T' : List (List Cell))
    (h : chunk T fs = some T') : fs.flatMap (·.cells) ++ T'.flatten = T.flatten := by
  induction fs generalizing T with
  | nil => rw [chunk_nil_frags] at h; cases h; simp
  | cons f fs ih =>
    cases T with
    | nil => simp [chunk] at h
    | cons row T =>
      obtain ⟨_, rest, rfl, ⟨_, _, hch⟩ | ⟨_, rfl, hch⟩⟩ := chunk_cons_inv h
      · simpa using ih _ hch
      · simpa using ih _ hch

/-- In the middle of a row (`pre` accumulated, `rest` still to come, then the rows `T`) the loop
returns the whole row and stops in front of the first fragment of `T`. The accumulator is flagged
partial even when the row is complete (`rest = []`, hence the `if`): `coalesce` keeps the first
fragment's flag, so the loop learns that the row has ended only from the next fragment or the end. -/
theorem assemble1_row {k : Bytes} (fs : List Frag) (pre rest : List Cell) (T : List (List Cell))
    (hpre : RowOk k pre) (hrest : ∀ c ∈ rest, c.row = k) (hnext : ∀ r' ∈ T.head?, ¬ RowOk k r')
    (hT : RowsOk T) (h : chunk (if rest = [] then T else rest :: T) fs = some []) :
    ∃ gs, assemble1 (some ⟨pre, true⟩) fs = some (⟨pre ++ rest, false⟩, gs) ∧ chunk T gs = some [] := by
  induction fs generalizing pre rest with
  | nil =>
    rw [chunk_nil_frags] at h
    have : rest = [] ∧ T = [] := by
      by_cases hr : rest = []
      · simpa [hr] using h
      · simp [hr] at h
    obtain ⟨rfl, rfl⟩ := this
    exact ⟨[], by simp [assemble1], rfl⟩
  | cons f fs ih =>
    have hpre' : ∀ cs : List Cell, (∀ c ∈ cs, c.row = k) → RowOk k (pre ++ cs) := fun cs hcs =>
      ⟨by simp [hpre.1], fun c hc => (List.mem_append.mp hc).elim (hpre.2 c) (hcs c)⟩
    by_cases hr : rest = []
    · -- the row is complete: the next fragment belongs to the next row, whose key differs
      subst hr
      rw [if_pos rfl] at h
      cases T with
      | nil => simp [chunk] at h
      | cons row T' =>
        obtain ⟨hfe, rest', hrow, _⟩ := chunk_cons_inv h
        obtain ⟨⟨k', hrow', _⟩, _⟩ := hT
        have hfk : RowOk k' f.cells := rowOk_prefix hrow' hfe (hrow ▸ List.prefix_append _ _)
        have hne : k ≠ k' := fun e => hnext row (by simp) (e ▸ hrow')
        have hnew : isNewRow ⟨pre, true⟩ f = true :=
          (isNewRow_of_rowOk hpre hfk).trans (bne_iff_ne.mpr hne)
        exact ⟨f :: fs, by simp [assemble1, coalesce, hnew], h⟩
    · rw [if_neg hr] at h
      obtain ⟨hfe, rest', hrow, hcase⟩ := chunk_cons_inv h
      subst hrow
      have hfk : RowOk k f.cells := ⟨hfe, fun c hc => hrest c (List.mem_append_left _ hc)⟩
      have hsame : isNewRow ⟨pre, true⟩ f = false :=
        (isNewRow_of_rowOk hpre hfk).trans (bne_self_eq_false k)
      have hrest' : ∀ c ∈ rest', c.row = k := fun c hc => hrest c (List.mem_append_right _ hc)
      have hstep : assemble1 (some ⟨pre, true⟩) (f :: fs) = assemble1 (some ⟨pre ++ f.cells, true⟩) fs := by
        simp [assemble1, coalesce, hsame]
      rw [hstep, ← List.append_assoc]
      apply ih _ _ (hpre' _ hfk.2) hrest'
      rcases hcase with ⟨_, hne, hch⟩ | ⟨_, rfl, hch⟩
      · rwa [if_neg hne]
      · rwa [if_pos rfl]

theorem assemble_chunk (T : List (List Cell)) (fs : List Frag) (hT : RowsOk T)
    (h : chunk T fs = some []) : assembleAll none fs = T.map fun r => ⟨r, false⟩ := by
  induction T generalizing fs with
  | nil =>
    cases fs with
    | nil => rfl
    | cons f fs => simp [chunk] at h
  | cons row T ih =>
    cases fs with
    | nil => simp [chunk] at h
    | cons f fs =>
      obtain ⟨⟨k, hrow, hnext⟩, hT'⟩ := hT
      obtain ⟨hfe, rest, rfl, hcase⟩ := chunk_cons_inv h
      rw [assembleAll_eq_assemble1]
      rcases hcase with ⟨hp, hne, hch⟩ | ⟨hp, rfl, hch⟩
      · have hfk : RowOk k f.cells := ⟨hfe, fun c hc => hrow.2 c (List.mem_append_left _ hc)⟩
        obtain ⟨gs, h1, h2⟩ := assemble1_row fs f.cells rest T hfk
          (fun c hc => hrow.2 c (List.mem_append_right _ hc)) hnext hT' (by rwa [if_neg hne])
        have hf : f = ⟨f.cells, true⟩ := by cases f; cases hp; rfl
        rw [hf] at h1 ⊢
        simp [assemble1, coalesce, h1, ih gs hT' h2]
      · have hf : f = ⟨f.cells, false⟩ := by cases f; cases hp; rfl
        rw [hf]
        simp [assemble1, coalesce, ih fs hT' hch]

end GV.Scanner
