import GohbaseVerif.Model.ConnCache
import GohbaseVerif.Lemmas.ListFacts
/-! Invariants of the connection cache model (C19, C20): one invariant for both variants of `put`, and
one lemma per kind of update an action is made of, so that `good_step` only names them. -/
namespace GV.ConnCache

def DialOK (c : Conn) : Prop := c.dials = (if c.onceDone then 1 else 0) ∧ c.dials ≤ c.dialCalls

/-- the last two fields are what the `closed` flag of the cache buys (C19), hence `flag = true` only -/
structure Good (flag : Bool) (s : State) : Prop where
  idsConn : ∀ c ∈ s.conns, c.id < s.nextId
  idsCache : ∀ e ∈ s.cache, e.id < s.nextId
  addrNodup : (s.cache.map (·.addr)).Nodup
  /-- a connection not declared dead is the cached one for its address -/
  live : ∀ c ∈ s.conns, c.down = false → ∃ e ∈ s.cache, e.id = c.id ∧ e.addr = c.addr
  /-- of two connections to one address the older was declared dead -/
  olderDown : ∀ c1 ∈ s.conns, ∀ c2 ∈ s.conns, c1.addr = c2.addr → c1.id < c2.id → c1.down = true
  dialOK : ∀ c ∈ s.conns, DialOK c
  noneAfter : flag = true → ∀ c ∈ s.conns, c.afterClose = false
  allClosed : flag = true → s.closeAllDone = true →
    ∀ c ∈ s.conns, s.cache.any (·.id == c.id) = true → c.closed = true

/-- a per-connection update that keeps identity and never revives or reopens a connection -/
structure Pres (g : Conn → Conn) : Prop where
  id : ∀ c, (g c).id = c.id
  addr : ∀ c, (g c).addr = c.addr
  down : ∀ c, c.down = true → (g c).down = true
  closed : ∀ c, c.closed = true → (g c).closed = true
  afterClose : ∀ c, (g c).afterClose = c.afterClose
  dial : ∀ c, DialOK c → DialOK (g c)

structure PresE (h : Entry → Entry) : Prop where
  id : ∀ e, (h e).id = e.id
  addr : ∀ e, (h e).addr = e.addr

theorem good_init (flag : Bool) : Good flag init := by
  constructor <;> simp [init]

theorem good_mapConns {flag : Bool} {s : State} (hg : Good flag s) {g : Conn → Conn} (hp : Pres g) :
    Good flag { s with conns := s.conns.map g } :=
  { hg with
    idsConn := List.forall_mem_map.mpr fun c hc => by rw [hp.id]; exact hg.idsConn c hc
    live := List.forall_mem_map.mpr fun c hc hd => by
      have hd0 : c.down = false := by
        cases h : c.down
        · rfl
        · rw [hp.down c h] at hd; cases hd
      rw [hp.id, hp.addr]; exact hg.live c hc hd0
    olderDown := List.forall_mem_map.mpr fun a1 m1 => List.forall_mem_map.mpr fun a2 m2 ha hlt => by
      rw [hp.addr, hp.addr] at ha
      rw [hp.id, hp.id] at hlt
      exact hp.down a1 (hg.olderDown a1 m1 a2 m2 ha hlt)
    dialOK := List.forall_mem_map.mpr fun c hc => hp.dial c (hg.dialOK c hc)
    noneAfter := fun hf => List.forall_mem_map.mpr fun c hc => by
      rw [hp.afterClose]; exact hg.noneAfter hf c hc
    allClosed := fun hf hd => List.forall_mem_map.mpr fun c hc ha => by
      simp only [hp.id] at ha
      exact hp.closed c (hg.allClosed hf hd c hc ha) }

theorem map_addr_eq {h : Entry → Entry} (hp : PresE h) (l : List Entry) :
    (l.map h).map (·.addr) = l.map (·.addr) := by
  simp only [List.map_map, Function.comp_def, hp.addr]

theorem any_id_map {h : Entry → Entry} (hp : PresE h) (l : List Entry) (i : Nat) :
    (l.map h).any (·.id == i) = l.any (·.id == i) := by
  simp only [List.any_map, Function.comp_def, hp.id]

theorem good_mapCache {flag : Bool} {s : State} (hg : Good flag s) {h : Entry → Entry} (hp : PresE h) :
    Good flag { s with cache := s.cache.map h } :=
  { hg with
    idsCache := List.forall_mem_map.mpr fun e he => by rw [hp.id]; exact hg.idsCache e he
    addrNodup := (map_addr_eq hp s.cache).symm ▸ hg.addrNodup
    live := fun c hc hd => by
      obtain ⟨e, he, h1, h2⟩ := hg.live c hc hd
      exact ⟨h e, List.mem_map.mpr ⟨e, he, rfl⟩, by rw [hp.id, h1], by rw [hp.addr, h2]⟩
    allClosed := fun hf hd c hc ha => hg.allClosed hf hd c hc ((any_id_map hp s.cache c.id).symm.trans ha) }

theorem good_dropEntry {flag : Bool} {s : State} (hg : Good flag s) (id : Nat)
    (hdown : ∀ c ∈ s.conns, c.id = id → c.down = true) :
    Good flag { s with cache := s.cache.filter (·.id != id) } :=
  { hg with
    idsCache := fun e he => hg.idsCache e (List.mem_filter.mp he).1
    addrNodup := (List.filter_sublist.map _).nodup hg.addrNodup
    live := fun c hc hd => by
      obtain ⟨e, he, h1, h2⟩ := hg.live c hc hd
      refine ⟨e, List.mem_filter.mpr ⟨he, bne_iff_ne.mpr fun h' => ?_⟩, h1, h2⟩
      rw [hdown c hc (h1 ▸ h')] at hd; cases hd
    allClosed := fun hf hd c hc ha => by
      refine hg.allClosed hf hd c hc ?_
      rw [List.any_eq_true] at ha ⊢
      obtain ⟨e, he, h1⟩ := ha
      exact ⟨e, (List.mem_filter.mp he).1, h1⟩ }

theorem pres_if (p : Conn → Bool) {f : Conn → Conn} (hf : Pres f) :
    Pres (fun c => if p c then f c else c) where
  id c := by rw [apply_ite Conn.id, hf.id, ite_self]
  addr c := by rw [apply_ite Conn.addr, hf.addr, ite_self]
  down c h := by rw [apply_ite Conn.down, hf.down c h, h, ite_self]
  closed c h := by rw [apply_ite Conn.closed, hf.closed c h, h, ite_self]
  afterClose c := by rw [apply_ite Conn.afterClose, hf.afterClose, ite_self]
  dial c h := by
    split
    · exact hf.dial c h
    · exact h

theorem presE_if (p : Entry → Bool) {h : Entry → Entry} (hh : PresE h) :
    PresE (fun e => if p e then h e else e) where
  id e := by rw [apply_ite Entry.id, hh.id, ite_self]
  addr e := by rw [apply_ite Entry.addr, hh.addr, ite_self]

theorem pres_dialConn : Pres dialConn where
  id c := by unfold dialConn; split <;> rfl
  addr c := by unfold dialConn; split <;> rfl
  down c h := by unfold dialConn; split <;> exact h
  closed c h := by unfold dialConn; split <;> exact h
  afterClose c := by unfold dialConn; split <;> rfl
  dial := by
    intro c ⟨h1, h2⟩
    unfold dialConn DialOK
    -- the first `Dial` takes the Once and runs the dialer (0 → 1); later calls only count
    split
    · rename_i ho; simp only [ho, if_true] at h1 ⊢; constructor <;> omega
    · rename_i ho; simp only [ho] at h1 ⊢; simp at h1 ⊢; omega

theorem pres_down : Pres fun c => { c with down := true } where
  id _ := rfl
  addr _ := rfl
  down _ _ := rfl
  closed _ h := h
  afterClose _ := rfl
  dial _ h := h

theorem pres_closed : Pres fun c => { c with closed := true } where
  id _ := rfl
  addr _ := rfl
  down _ h := h
  closed _ _ := rfl
  afterClose _ := rfl
  dial _ h := h

theorem good_updConn {flag : Bool} {s : State} (hg : Good flag s) (id : Nat) {f : Conn → Conn}
    (hf : Pres f) : Good flag { s with conns := updConn id f s.conns } :=
  good_mapConns hg (pres_if _ hf)

theorem updConn_down (id : Nat) (cs : List Conn) :
    ∀ c ∈ updConn id (fun c => { c with down := true }) cs, c.id = id → c.down = true := by
  intro c hc hid
  obtain ⟨c0, _, rfl⟩ := List.mem_map.mp hc
  rw [(pres_if (·.id == id) pres_down).id c0] at hid
  simp [hid]

theorem presE_addReg (reg : Nat) : PresE (addReg reg) := ⟨fun _ => rfl, fun _ => rfl⟩

theorem find_none_addr {l : List Entry} {addr : Nat} (h : l.find? (·.addr == addr) = none) :
    ∀ e ∈ l, e.addr ≠ addr :=
  fun e he ha => List.find?_eq_none.mp h e he (beq_iff_eq.mpr ha)

theorem good_put {flag : Bool} {s : State} (hg : Good flag s) (addr reg : Nat) :
    Good flag (put flag s addr reg).1 := by
  unfold put
  split
  · exact hg
  · rename_i hfl
    split
    · exact good_mapCache hg (presE_if _ (presE_addReg reg))
    · rename_i hnone
      have hno := find_none_addr hnone
      have hnd : flag = true → s.closeAllDone = false := fun hf => by simpa [hf] using hfl
      exact {
        idsConn := List.forall_mem_cons.mpr
          ⟨Nat.lt_succ_self _, fun c hc => Nat.lt_succ_of_lt (hg.idsConn c hc)⟩
        idsCache := List.forall_mem_cons.mpr
          ⟨Nat.lt_succ_self _, fun e he => Nat.lt_succ_of_lt (hg.idsCache e he)⟩
        addrNodup := List.nodup_cons.mpr ⟨fun hm => by
          obtain ⟨e, he, ha⟩ := List.mem_map.mp hm
          exact hno e he ha, hg.addrNodup⟩
        live := List.forall_mem_cons.mpr ⟨fun _ => ⟨_, List.mem_cons_self, rfl, rfl⟩, fun c hc hd => by
          obtain ⟨e, he, h1, h2⟩ := hg.live c hc hd
          exact ⟨e, List.mem_cons_of_mem _ he, h1, h2⟩⟩
        olderDown := fun c1 h1 c2 h2 ha hlt => by
          rcases List.mem_cons.mp h1 with rfl | h1
          · rcases List.mem_cons.mp h2 with rfl | h2
            · exact absurd hlt (Nat.lt_irrefl _)
            · exact absurd (hg.idsConn c2 h2) (Nat.lt_asymm hlt)
          · rcases List.mem_cons.mp h2 with rfl | h2
            · -- an older connection to the same address that is still live would have been found
              cases hd : c1.down with
              | true => rfl
              | false =>
                obtain ⟨e, he, _, h2⟩ := hg.live c1 h1 hd
                exact absurd (h2.trans ha) (hno e he)
            · exact hg.olderDown c1 h1 c2 h2 ha hlt
        dialOK := List.forall_mem_cons.mpr ⟨by simp [DialOK], hg.dialOK⟩
        noneAfter := fun hf => List.forall_mem_cons.mpr ⟨hnd hf, hg.noneAfter hf⟩
        allClosed := fun hf hd => absurd ((hnd hf).symm.trans hd) Bool.false_ne_true }

theorem closeAll_closes (s : State) :
    ∀ c ∈ s.conns.map (fun c => if s.cache.any (·.id == c.id) then { c with closed := true } else c),
      s.cache.any (·.id == c.id) = true → c.closed = true := by
  intro c hc ha
  obtain ⟨c0, h0, rfl⟩ := List.mem_map.mp hc
  rw [(pres_if (fun c => s.cache.any (·.id == c.id)) pres_closed).id c0] at ha
  simp [ha]

theorem good_step {flag : Bool} {s s' : State} {a : Action} (hg : Good flag s)
    (h : step flag s a = some s') : Good flag s' := by
  cases a with
  | spawnReestablish | spawnEstablish => cases h; exact { hg with }
  | estCheck =>
    simp only [step, Option.ite_none_left_eq_some] at h
    obtain ⟨_, h⟩ := h
    split at h
    · cases h; exact { hg with }
    · cases h; exact { hg with }
  | estPut addr reg =>
    simp only [step, Option.ite_none_left_eq_some, Option.some.injEq] at h
    obtain ⟨_, rfl⟩ := h
    exact good_put hg addr reg
  | estExit =>
    simp only [step, Option.ite_none_left_eq_some, Option.some.injEq] at h
    obtain ⟨_, rfl⟩ := h
    exact { hg with }
  | del id reg =>
    cases h
    exact good_mapCache hg (presE_if _ ⟨fun _ => rfl, fun _ => rfl⟩)
  | clientDown id =>
    cases h
    exact good_dropEntry (good_updConn hg id pres_down) id (updConn_down id s.conns)
  | dial id =>
    cases h
    exact good_updConn hg id pres_dialConn
  | closeBegin =>
    simp only [step] at h
    split at h
    · cases h; exact hg
    · cases h; exact { hg with }
  | closeAllRun =>
    simp only [step, Option.ite_none_right_eq_some, Option.some.injEq] at h
    obtain ⟨_, rfl⟩ := h
    exact { good_mapConns hg (pres_if _ pres_closed) with allClosed := fun _ _ => closeAll_closes s }

theorem good_run {flag : Bool} {s s' : State} {as : List Action} (hg : Good flag s)
    (h : run flag s as = some s') : Good flag s' := by
  induction as generalizing s with
  | nil => cases h; exact hg
  | cons a rest ih =>
    simp only [run] at h
    split at h
    · rename_i s1 hs; exact ih (good_step hg hs) h
    · cases h

theorem good_of_reachable {flag : Bool} {s : State} (h : Reachable flag s) : Good flag s := by
  obtain ⟨as, h⟩ := h
  exact good_run (good_init flag) h

/-! the master connection: of `Close` and the establisher, whoever comes second closes it -/

structure GoodA (s : AState) : Prop where
  doneFirst : s.closeAdminDone = true → s.done = true
  covered : s.closeAdminDone = true → ∀ k, s.adminClient = some k → k ∈ s.closedConns ∨ k ∈ s.pendingCheck

theorem goodA_step {s s' : AState} {a : AAction} (hg : GoodA s) (h : astep true s a = some s') :
    GoodA s' := by
  cases a with
  | closeDone =>
    cases h
    exact ⟨fun _ => rfl, hg.covered⟩
  | closeAdmin =>
    simp only [astep, Option.ite_none_right_eq_some, Option.some.injEq] at h
    obtain ⟨hc, rfl⟩ := h
    refine ⟨fun _ => hc.1, fun _ k hk => Or.inl ?_⟩
    -- `Close` has just put the client it read on `closedConns`
    simp only at hk
    simp [hk]
  | publish =>
    cases h
    refine ⟨hg.doneFirst, fun _ k hk => Or.inr ?_⟩
    simp only [Option.some.injEq] at hk
    simp [hk]
  | checkDone k =>
    simp only [astep, Option.ite_none_right_eq_some, Option.some.injEq] at h
    obtain ⟨_, rfl⟩ := h
    refine ⟨hg.doneFirst, ?_⟩
    intro hc k' hk'
    simp only [hg.doneFirst hc, if_true]
    by_cases hkk : k' = k
    · left; simp [hkk]
    · rcases hg.covered hc k' hk' with h1 | h1
      · left; exact List.mem_cons_of_mem _ h1
      · right; exact (List.mem_erase_of_ne hkk).mpr h1

theorem goodA_of_reachable {s : AState} (h : AReachable true s) : GoodA s := by
  obtain ⟨as, h⟩ := h
  have hinit : GoodA {} := ⟨by simp, by simp⟩
  generalize ({} : AState) = s0 at h hinit
  induction as generalizing s0 with
  | nil => cases h; exact hinit
  | cons a rest ih =>
    simp only [arun] at h
    split at h
    · rename_i s1 hs; exact ih s1 h (goodA_step hinit hs)
    · cases h

end GV.ConnCache
