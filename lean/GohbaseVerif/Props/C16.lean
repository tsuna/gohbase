import GohbaseVerif.Lemmas.RegionName
import GohbaseVerif.Lemmas.Outcome
/-!
# C16 — Region names are totally ordered by table, start key, then id

`compareName` is the model of `region.Compare`; the correspondence check ties it to the Go code
(sign only).
-/
namespace GV.RegionName
open GV

/-- The ordering the client uses coincides with the component-wise order on
(table, start key, id suffix) — for *all* start keys (commas included), and never panics
on a well-formed name. -/
theorem compare_sign_eq_tuple (t1 k1 s1 t2 k2 s2 : Bytes)
    (h1 : comma ∉ t1) (h2 : comma ∉ t2) (h3 : comma ∉ s1) (h4 : comma ∉ s2) :
    (compareName (mkName t1 k1 s1) (mkName t2 k2 s2)).map signOf
      = .ok (lex3 (t1, k1, s1) (t2, k2, s2)) := by
  rcases phase1_tables t1 t2 (k1 ++ comma :: s1) (k2 ++ comma :: s2) h1 h2 with
    ⟨hteq, hp⟩ | ⟨d, hp, hs, hne⟩
  · rw [mkName, mkName, compareName_same hp (splitLastComma_key k1 s1 h3) (splitLastComma_key k2 s2 h4),
      lex3_eq_then, hteq]
    rfl
  · -- the tables differ: the first loop decides, as does the first component of `lex3`
    rw [mkName, mkName, compareName_done hp, lex3_eq_then, ← hs, then_of_ne_eq (hs ▸ hne)]
    rfl

theorem compare_no_fault_wf (t1 k1 s1 t2 k2 s2 : Bytes)
    (h1 : comma ∉ t1) (h2 : comma ∉ t2) (h3 : comma ∉ s1) (h4 : comma ∉ s2) :
    (compareName (mkName t1 k1 s1) (mkName t2 k2 s2)).isFault = false := by
  rw [← Outcome.isFault_map _ signOf, compare_sign_eq_tuple t1 k1 s1 t2 k2 s2 h1 h2 h3 h4]
  rfl

/-! ## `lex3` is a strict total order (so `Compare` is one on well-formed names) -/

theorem lex3_refl (x : Bytes × Bytes × Bytes) : lex3 x x = .eq := by
  rw [lex3_eq_compareLex]; exact Std.ReflCmp.compare_self

theorem lex3_eq_iff (x y : Bytes × Bytes × Bytes) : lex3 x y = .eq ↔ x = y := by
  simp only [lex3_eq_then, Ordering.then_eq_eq, bcmp_eq_iff, Prod.ext_iff]

theorem lex3_swap (x y : Bytes × Bytes × Bytes) : lex3 y x = (lex3 x y).swap := by
  rw [lex3_eq_compareLex]; exact Std.OrientedCmp.eq_swap

theorem lex3_trans_lt {x y z : Bytes × Bytes × Bytes}
    (h1 : lex3 x y = .lt) (h2 : lex3 y z = .lt) : lex3 x z = .lt := by
  rw [lex3_eq_compareLex] at *; exact Std.TransCmp.lt_trans h1 h2

theorem lex3_total (x y : Bytes × Bytes × Bytes) : lex3 x y = .lt ∨ x = y ∨ lex3 y x = .lt := by
  rw [← lex3_eq_iff, ← lex3_gt_iff_lt x y]; cases lex3 x y <;> simp

theorem compare_eq_zero_iff (t1 k1 s1 t2 k2 s2 : Bytes)
    (h1 : comma ∉ t1) (h2 : comma ∉ t2) (h3 : comma ∉ s1) (h4 : comma ∉ s2) :
    (compareName (mkName t1 k1 s1) (mkName t2 k2 s2)).map signOf = .ok .eq ↔
      (t1, k1, s1) = (t2, k2, s2) := by
  rw [compare_sign_eq_tuple t1 k1 s1 t2 k2 s2 h1 h2 h3 h4, Outcome.ok.injEq]
  exact lex3_eq_iff _ _

/-- A table's first region (empty start key) sorts before all its other regions. -/
theorem first_region_first (t k s1 s2 : Bytes) (hk : k ≠ [])
    (h1 : comma ∉ t) (h3 : comma ∉ s1) (h4 : comma ∉ s2) :
    (compareName (mkName t [] s1) (mkName t k s2)).map signOf = .ok .lt := by
  rw [compare_sign_eq_tuple t [] s1 t k s2 h1 h1 h3 h4,
    (lex3_lt_iff ..).mpr (.inr ⟨rfl, .inl ((bcmp_nil_left k).resolve_right hk)⟩)]

/-- Every region of a smaller table name sorts first, whatever the keys and ids — including
when one table name is a proper prefix of the other. -/
theorem smaller_table_first (t1 k1 s1 t2 k2 s2 : Bytes) (ht : bcmp t1 t2 = .lt)
    (h1 : comma ∉ t1) (h2 : comma ∉ t2) (h3 : comma ∉ s1) (h4 : comma ∉ s2) :
    (compareName (mkName t1 k1 s1) (mkName t2 k2 s2)).map signOf = .ok .lt := by
  rw [compare_sign_eq_tuple t1 k1 s1 t2 k2 s2 h1 h2 h3 h4, (lex3_lt_iff ..).mpr (.inl ht)]

theorem prefix_table_first (t u k1 s1 k2 s2 : Bytes) (hu : u ≠ [])
    (h1 : comma ∉ t) (h2 : comma ∉ t ++ u) (h3 : comma ∉ s1) (h4 : comma ∉ s2) :
    (compareName (mkName t k1 s1) (mkName (t ++ u) k2 s2)).map signOf = .ok .lt := by
  refine smaller_table_first t k1 s1 (t ++ u) k2 s2 ?_ h1 h2 h3 h4
  have := bcmp_append_left t [] u
  rw [List.append_nil] at this
  rw [this]
  exact (bcmp_nil_left u).resolve_right hu

/-- The lookup key `table,key,:` sorts after every region `table,key,<id>` whose id suffix
starts with a byte below `':'` (digits). -/
theorem searchKey_after_every_id (t k s : Bytes) (h1 : comma ∉ t) (h3 : comma ∉ s)
    (hs : bcmp s [0x3a] = .lt) :
    (compareName (mkName t k s) (searchKey t k)).map signOf = .ok .lt := by
  rw [searchKey, compare_sign_eq_tuple t k s t k [0x3a] h1 h1 h3 (by simp [comma]),
    (lex3_lt_iff ..).mpr (.inr ⟨rfl, .inr ⟨rfl, hs⟩⟩)]

/-- … and before every region of the same table with a larger start key. -/
theorem searchKey_before_larger_start (t k k' s : Bytes) (h1 : comma ∉ t) (h3 : comma ∉ s)
    (hk : bcmp k k' = .lt) :
    (compareName (searchKey t k) (mkName t k' s)).map signOf = .ok .lt := by
  rw [searchKey, compare_sign_eq_tuple t k [0x3a] t k' s h1 h1 (by simp [comma]) h3,
    (lex3_lt_iff ..).mpr (.inr ⟨rfl, .inl hk⟩)]

theorem searchKey_ne_region (t k s : Bytes) (h1 : comma ∉ t) (h3 : comma ∉ s)
    (hs : bcmp s [0x3a] = .lt) :
    (compareName (mkName t k s) (searchKey t k)).map signOf ≠ .ok .eq := by
  rw [searchKey_after_every_id t k s h1 h3 hs]; simp

/-! ## Non-vacuity: concrete names meeting the hypotheses -/

example : (compareName (mkName [0x74] [0x2c, 0x2b] [0x31]) (mkName [0x74] [0x2c] [0x39, 0x39])).map signOf
    = .ok .gt := by decide
example : comma ∉ ([0x74] : Bytes) ∧ comma ∉ ([0x31] : Bytes) := by decide
example : bcmp [0x31, 0x32] [0x3a] = .lt := by decide
/-- An ill-formed name (no second comma) does panic — the explicit `panic` in `findCommaFromEnd`. -/
example : (compareName [0x74, 0x2c] [0x74, 0x2c]).isFault = true := by decide

/-- Regenerated tie: the search key built with the working tree's constants and separator
bytes is `table,key[:MaxInt16-len(table)-3],:`. Breaks if a separator or the bound changes. -/
theorem searchKeyImpl_eq (t k : Bytes) : searchKeyImpl t k = searchKeyN 32767 t k := by
  simp [searchKeyImpl, searchKeyN, mkName, comma, Gen.Wire.searchKeySeps, Gen.Wire.searchKeyMax,
    Gen.Wire.searchKeySlack]

theorem searchKeyN_short (t k : Bytes) (h : k.length ≤ 32767 - t.length - 3) :
    searchKeyN 32767 t k = searchKey t k := by
  simp [searchKeyN, searchKey, Nat.min_eq_left h]

theorem gen_wire_shape : Gen.Wire.shapeOk = true := by decide
end GV.RegionName
