import GohbaseVerif.Lemmas.BatchSend
/-!
# C12 — Each call once, in per-region order, or not at all

Same model as C07 (`sendBatch`, Model/Batch.lean); what reaches the region clients is the list of
`Event.queue round client calls` (one per `QueueBatch`), and what a region server is shown of one
`QueueBatch` is `Multi.toProto` (model of `multi.add` + `multi.toProto`, region/multi.go).
-/
namespace GV.Batch
open GV

/-- **A batch that mixes tables, repeats a call or contains a non-batchable call — at any position
— is rejected as a whole without anything being sent**: no `QueueBatch`, `allOK = false`, and every
slot carries an error. -/
theorem invalid_rejected_unsent {info : Info} {batch : List Nat} (hne : batch ≠ [])
    (hv : ¬ ValidBatch info batch) (rounds : List Round) :
    ∃ R, sendBatch info batch rounds = .ok R ∧ R.events = [] ∧ R.allOK = false ∧
      R.res.length = batch.length ∧ ∀ s ∈ R.res, s.msg = none ∧ s.err ≠ none := by
  exact ⟨_, sendBatch_invalid hne hv rounds, rfl, rfl, validate_length .., validate_slots _ _ _ _⟩

/-- … and each slot of a rejected batch describes its own entry: a repeated call is told the
position of its first occurrence, a call of another table than `batch[0]`'s or a non-batchable call
its own defect, every other call `NotExecutedError`. -/
theorem invalid_slot_describes_entry {info : Info} {batch : List Nat} (hne : batch ≠ [])
    (hv : ¬ ValidBatch info batch) (rounds : List Round) {R : Result}
    (h : sendBatch info batch rounds = .ok R) (i : Nat) (hi : i < batch.length) :
    R.res[i]'(by rw [sendBatch_length h]; exact hi)
      = entrySlot info (info.table (batch.headD 0)) (batch.take i) batch[i] := by
  rw [sendBatch_invalid hne hv, Outcome.ok.injEq] at h
  subst h
  simpa using validate_getElem info (info.table (batch.headD 0)) [] batch i hi

/-- What "invalid" means, entry by entry: some call is repeated, or is of another table than the
first call, or is not batchable. -/
theorem invalid_iff {info : Info} {batch : List Nat} :
    ¬ ValidBatch info batch ↔
      ¬ batch.Nodup ∨ ∃ c ∈ batch, info.table c ≠ info.table (batch.headD 0) ∨ info.batchable c = false := by
  simp only [ValidBatch, Classical.not_and_iff_not_or_not, Classical.not_forall, Bool.not_eq_true, ne_eq,
    exists_prop]

/-- **Otherwise each call is sent to the region client owning its key, once, and every group keeps
batch order.** First round of a valid batch whose calls can all be located: the `QueueBatch` calls
are exactly the groups of the routing oracle (in whatever order Go iterates the map); every call is
in exactly one group — the one of the client region location returned for it — and each group is
a sublist of the batch (batch order). -/
theorem round0_partition {info : Info} {batch : List Nat} {rd : Round} {rest : List Round} {R : Result}
    (hne : batch ≠ []) (hv : ValidBatch info batch) (hloc : ∀ c ∈ batch, locOk rd c = true)
    (h : sendBatch info batch (rd :: rest) = .ok R) :
    queuedAt R.events 0 = groups rd batch ∧
    ((groups rd batch).map (·.1)).Nodup ∧
    (∀ g ∈ groups rd batch, g.2.Sublist batch ∧ ∀ c ∈ g.2, rd.locate c = .ok g.1) ∧
    (∀ c ∈ batch, ∃ g ∈ groups rd batch, c ∈ g.2 ∧ ∀ g' ∈ groups rd batch, c ∈ g'.2 → g' = g) := by
  have hq := queuedAt_zero hne hv h (any_unlocated_false fun c hc => Or.inl (hloc c hc))
  rw [liveCalls_of_located hloc] at hq
  refine ⟨hq, groups_keys_nodup rd batch, ?_, ?_⟩
  · intro g hg
    refine ⟨groups_sublist hg, fun c hc => ?_⟩
    obtain ⟨hcb, hk⟩ := (mem_group hg).mp hc
    rw [← hk]; exact locOk_iff.mp (hloc c hcb)
  · intro c hc
    obtain ⟨g, hg, hcg⟩ := List.mem_flatMap.mp (mem_groups_flat.mpr hc)
    refine ⟨g, hg, hcg, fun g' hg' hcg' => ?_⟩
    -- both are the group of `c`'s client
    have hk : g'.1 = g.1 := ((mem_group hg').mp hcg').2.symm.trans ((mem_group hg).mp hcg).2
    exact Prod.ext hk (by rw [groups_eq hg', groups_eq hg, hk])

/-- **Only calls that failed with a retryable class are sent again**: a call handed to a region
client in round `r+1` was handed to one in round `r` and the answer it got there was a
RetryableError, NotServingRegionError or ServerError. -/
theorem only_retryable_resent {info : Info} {batch : List Nat} {rounds : List Round} {R : Result}
    (h : sendBatch info batch rounds = .ok R) {r c : Nat} (hs : Sent R.events (r + 1) c) :
    Sent R.events r c ∧ ∃ rd, rounds[r]? = some rd ∧ isRetry (rd.ans c) = true := by
  exact (sendBatch_sends h).sent_pred hs

/-- A call whose answer in round `r` was not of a retryable class (a success, a fatal error, or
no answer at all) is not sent in any later round. -/
theorem ended_never_resent {info : Info} {batch : List Nat} {rounds : List Round} {R : Result}
    (h : sendBatch info batch rounds = .ok R) {r c : Nat} {rd : Round}
    (hrd : rounds[r]? = some rd) (hnr : isRetry (rd.ans c) = false) :
    ∀ r', r < r' → ¬ Sent R.events r' c := by
  intro r' hlt hs
  obtain ⟨_, rd', hrd', hretry⟩ := only_retryable_resent h ((sendBatch_sends h).sent_le hs hlt)
  rw [hrd] at hrd'; cases hrd'
  rw [hnr] at hretry; cases hretry

/-- **A call whose success has been received is never executed a second time.** -/
theorem success_never_resent {info : Info} {batch : List Nat} {rounds : List Round} {R : Result}
    (h : sendBatch info batch rounds = .ok R) {r c m : Nat} {rd : Round}
    (hrd : rounds[r]? = some rd) (hm : rd.ans c = .ok m) :
    ∀ r', r < r' → ¬ Sent R.events r' c :=
  ended_never_resent h hrd (by rw [hm]; rfl)

/-- Nothing but calls of the batch is ever sent. -/
theorem sent_in_batch {info : Info} {batch : List Nat} {rounds : List Round} {R : Result}
    (h : sendBatch info batch rounds = .ok R) {r c : Nat} (hs : Sent R.events r c) : c ∈ batch :=
  ((sendBatch_sends h).of_sent hs).1

/-! ### what a region server is shown: `multi.add` + `multi.toProto` -/

/-- **Calls for the same region are presented to the server in batch order.** Whatever else is in
the multi (`pre`, `post`: slices queued by other callers before and after), whatever order Go
iterates the per-region map in (`ord`), and whichever calls were dropped because their own context
ended (`alive`): there is one RegionAction per region, and the actions of a region that come from
one `QueueBatch`ed slice are exactly the live calls of that region in the slice, contiguous and in
slice order; every live call of the slice is shown, under its own region. -/
theorem per_region_order (region : Nat → Nat) (alive : Nat → Bool) (ord pre slice post : List Nat) :
    let proto := Multi.toProto region alive ord (Multi.add (Multi.add pre slice) post)
    (proto.map (·.1)).Nodup ∧
    (∀ ra ∈ proto, ra.2 = Multi.actionsOf region alive pre ra.1 ++
        slice.filter (fun c => alive c && region c == ra.1) ++ Multi.actionsOf region alive post ra.1) ∧
    (∀ r, (slice.filter (fun c => alive c && region c == r)).Sublist slice) ∧
    (∀ c ∈ slice, alive c = true → ∃ ra ∈ proto, ra.1 = region c ∧ c ∈ ra.2) := by
  intro proto
  refine ⟨Multi.toProto_keys_nodup .., fun ra hra => ?_, fun r => List.filter_sublist, fun c hc hal => ?_⟩
  · rw [(Multi.mem_toProto.mp hra).2, Multi.add, Multi.add, Multi.actionsOf_append, Multi.actionsOf_append]
    rfl
  · have hmem : c ∈ Multi.add (Multi.add pre slice) post :=
      List.mem_append_left _ (List.mem_append_right _ hc)
    refine ⟨(region c, Multi.actionsOf region alive (Multi.add (Multi.add pre slice) post) (region c)),
      Multi.mem_toProto.mpr ⟨Multi.mem_regionsOf.mpr ⟨c, hmem, hal, rfl⟩, rfl⟩, rfl, ?_⟩
    exact List.mem_filter.mpr ⟨hmem, by simp [hal]⟩

/-- … and for the first round of a batch: the actions of a region that come from one of the
batch's `QueueBatch` calls are a sublist of the batch — batch order. -/
theorem per_region_order_batch {info : Info} {batch : List Nat} {rd : Round} {rest : List Round} {R : Result}
    (hne : batch ≠ []) (hv : ValidBatch info batch) (hloc : ∀ c ∈ batch, locOk rd c = true)
    (h : sendBatch info batch (rd :: rest) = .ok R) (region : Nat → Nat) (alive : Nat → Bool) (r : Nat) :
    ∀ g ∈ queuedAt R.events 0, (g.2.filter (fun c => alive c && region c == r)).Sublist batch := by
  intro g hg
  rw [(round0_partition hne hv hloc h).1] at hg
  exact List.filter_sublist.trans (groups_sublist hg)

/-- **… also in retry rounds**: two calls of the batch that region location sends to the same
region client in every round (calls of one region, as long as it is one region) are handed over
in batch order in every `QueueBatch` that contains both. -/
theorem same_region_order {info : Info} {batch : List Nat} {rounds : List Round} {R : Result}
    (hv : ValidBatch info batch) (h : sendBatch info batch rounds = .ok R)
    {i j : Nat} (hij : i < j) (hj : j < batch.length)
    (hsame : ∀ rd ∈ rounds, clientOf rd (batch[i]'(by omega)) = clientOf rd batch[j]) :
    ∀ r k cs, Event.queue r k cs ∈ R.events → batch[i]'(by omega) ∈ cs → batch[j] ∈ cs →
      [batch[i]'(by omega), batch[j]].Sublist cs :=
  fun _ _ _ hm => (sendBatch_sends h).order (fun _ _ => pair_sublist_of_lt hij hj) hsame hm

/-! ### Non-vacuity -/

def exInfo2 : Info := ⟨fun c => if c = 3 then 1 else 0, fun c => c ≠ 4⟩

/-- mixed tables at position 1, repeated call at position 2, non-batchable call at position 3 -/
example : sendBatch exInfo2 [0, 3, 0, 4] []
    = .ok ⟨[⟨none, some .notExecuted⟩, ⟨none, some .tables⟩, ⟨none, some (.dup 0)⟩, ⟨none, some .nonBatchable⟩],
           false, [], false⟩ := by decide

example : ¬ ValidBatch exInfo2 [0, 3, 0, 4] := by
  intro h; have := h.1; simp at this

def exR0 : Round := ⟨fun c => .ok (c % 2), fun c => if c = 1 then .fail .nsre 5 else .ok (10 + c), [1, 0], .none, fun _ => false⟩
def exR1 : Round := ⟨fun _ => .ok 0, fun _ => .ok 21, [], .none, fun _ => false⟩

/-- three calls on two clients, map iterated in the order client 1, client 0; call 1 gets
NotServingRegion and is sent again (alone) in round 1, calls 0 and 2 are not -/
example : sendBatch exInfo2 [0, 1, 2] [exR0, exR1]
    = .ok ⟨[⟨some 10, none⟩, ⟨some 21, none⟩, ⟨some 12, none⟩], true,
           [.queue 0 1 [1], .queue 0 0 [0, 2], .queue 1 0 [1]], false⟩ := by decide +kernel

example : Multi.toProto (fun c => c % 2) (fun c => c ≠ 4) [1, 0] (Multi.add (Multi.add [9] [0, 1, 2, 4, 3]) [6])
    = [(1, [9, 1, 3]), (0, [0, 2, 6])] := by decide

end GV.Batch
