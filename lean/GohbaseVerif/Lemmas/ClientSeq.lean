import GohbaseVerif.Model.ClientSeq
import GohbaseVerif.Lemmas.Classify
/-! The sequentialised progress argument (C04): no operation raises a component of the measure and every
kind of failed attempt lowers one. -/
namespace GV.ClientSeq
open GV.Classify

/-! the first two components of `measure` -/
def staleLinks (L : Layout) (l : List (Nat × Nat)) : Nat := (l.filter (staleLink L)).length
def staleCached (L : Layout) (o : Option Nat) : Nat :=
  match o with | some r => if r = L.owner then 0 else 1 | none => 0

theorem measure_eq (L : Layout) (c : Client) :
    measure L c = staleCached L c.cached + staleLinks L c.links + c.deadConns.length + c.transient := rfl

theorem staleLinks_filter_le (L : Layout) (q : Nat × Nat → Bool) (l : List (Nat × Nat)) :
    staleLinks L (l.filter q) ≤ staleLinks L l :=
  (List.filter_sublist.filter _).length_le

theorem staleLinks_filter_lt (L : Layout) (q : Nat × Nat → Bool) {l : List (Nat × Nat)} {x : Nat × Nat}
    (hx : x ∈ l) (hs : staleLink L x = true) (hq : q x = false) :
    staleLinks L (l.filter q) < staleLinks L l := by
  have : (l.filter q).filter (staleLink L) = (l.filter (staleLink L)).filter q := by
    simp only [List.filter_filter, Bool.and_comm]
  rw [staleLinks, this]
  exact List.length_filter_lt_length_iff_exists.mpr ⟨x, List.mem_filter.mpr ⟨hx, hs⟩, by simp [hq]⟩

theorem staleLinks_cons_good (L : Layout) (r : Nat) (l : List (Nat × Nat)) :
    staleLinks L ((r, L.host r) :: l) = staleLinks L l := by
  simp [staleLinks, staleLink]

theorem linkOf_mem {c : Client} {r srv : Nat} (h : linkOf c r = some srv) : (r, srv) ∈ c.links := by
  obtain ⟨⟨a, b⟩, hf, hb⟩ := Option.map_eq_some_iff.mp h
  have ha : a = r := by simpa using List.find?_some hf
  subst ha
  cases hb
  exact List.mem_of_find?_eq_some hf

/-- `connect` puts the right link of `r` in front, drops (at least) every other link of `r`, and forgets a
broken connection object for the server of `r` -/
theorem connect_spec (L : Layout) (c : Client) (r : Nat) :
    ∃ q : Nat × Nat → Bool, (∀ srv, q (r, srv) = false) ∧
      connect L c r = { c with links := (r, L.host r) :: c.links.filter q,
                               deadConns := c.deadConns.filter (· != L.host r) } := by
  unfold connect
  by_cases h : L.host r ∈ c.deadConns
  · rw [if_pos h]; exact ⟨_, fun srv => by simp, rfl⟩
  · rw [if_neg h]
    have hd : c.deadConns.filter (· != L.host r) = c.deadConns :=
      List.filter_eq_self.mpr fun a ha => bne_iff_ne.mpr fun e => h (e ▸ ha)
    exact ⟨(·.1 != r), fun srv => by simp, by rw [hd]⟩

theorem connect_parts (L : Layout) (c : Client) (r : Nat) :
    (connect L c r).cached = c.cached ∧ staleLinks L (connect L c r).links ≤ staleLinks L c.links ∧
    (connect L c r).deadConns.length ≤ c.deadConns.length ∧
    (connect L c r).transient = c.transient := by
  obtain ⟨q, _, h⟩ := connect_spec L c r
  rw [h]
  exact ⟨rfl, Nat.le_trans (Nat.le_of_eq (staleLinks_cons_good ..)) (staleLinks_filter_le ..),
    List.length_filter_le _ _, rfl⟩

theorem connect_link (L : Layout) (c : Client) (r : Nat) :
    linkOf (connect L c r) r = some (L.host r) := by
  obtain ⟨q, _, h⟩ := connect_spec L c r
  simp [h, linkOf]

theorem connect_staleLinks_lt (L : Layout) (c : Client) (r srv : Nat) (hm : (r, srv) ∈ c.links)
    (hs : srv ≠ L.host r) : staleLinks L (connect L c r).links < staleLinks L c.links := by
  obtain ⟨q, hq, h⟩ := connect_spec L c r
  rw [h]
  exact Nat.lt_of_le_of_lt (Nat.le_of_eq (staleLinks_cons_good ..))
    (staleLinks_filter_lt L q hm (by simp [staleLink, hs]) (hq srv))

/-- the cached descriptor, if any, has a connection (`reg.Client() != nil`) -/
def Ready (c : Client) : Prop := ∀ r, c.cached = some r → ∃ srv, linkOf c r = some srv

theorem connect_ready (L : Layout) (c : Client) (r : Nat) (hc : c.cached = some r) :
    Ready (connect L c r) := by
  intro r' h'
  rw [(connect_parts L c r).1, hc] at h'
  cases h'
  exact ⟨_, connect_link L c r⟩

theorem measure_connect_le (L : Layout) (c : Client) (r : Nat) :
    measure L (connect L c r) ≤ measure L c := by
  obtain ⟨h1, h2, h3, h4⟩ := connect_parts L c r
  rw [measure_eq, measure_eq, h1, h4]; omega

theorem establish_parts (L : Layout) (c : Client) (r : Nat) :
    staleCached L (establish L c r).cached ≤ staleCached L c.cached ∧
    staleLinks L (establish L c r).links ≤ staleLinks L c.links ∧
    (establish L c r).deadConns.length ≤ c.deadConns.length ∧
    (establish L c r).transient = c.transient ∧
    (r ≠ L.owner → staleCached L (establish L c r).cached = 0) := by
  unfold establish
  by_cases hr : r = L.owner
  · rw [if_pos hr]
    obtain ⟨h1, h2, h3, h4⟩ := connect_parts L c r
    rw [h1]; exact ⟨Nat.le_refl _, h2, h3, h4, fun h => absurd hr h⟩
  · rw [if_neg hr]
    simp only
    split
    · obtain ⟨h1, h2, h3, h4⟩ := connect_parts L
        { c with links := c.links.filter (·.1 != r), cached := some L.owner } L.owner
      rw [h1]
      exact ⟨by simp [staleCached], Nat.le_trans h2 (staleLinks_filter_le ..), h3, h4,
        fun _ => by simp [staleCached]⟩
    · exact ⟨by simp [staleCached], staleLinks_filter_le .., Nat.le_refl _, rfl, fun _ => rfl⟩

theorem measure_establish_le (L : Layout) (c : Client) (r : Nat) :
    measure L (establish L c r) ≤ measure L c := by
  obtain ⟨h1, h2, h3, h4, _⟩ := establish_parts L c r
  rw [measure_eq, measure_eq, h4]; omega

theorem measure_establish_lt_stale (L : Layout) (c : Client) (r : Nat) (hc : c.cached = some r)
    (hr : r ≠ L.owner) : measure L (establish L c r) < measure L c := by
  obtain ⟨_, h2, h3, h4, h0⟩ := establish_parts L c r
  have h1 : staleCached L c.cached = 1 := by rw [hc]; simp [staleCached, hr]
  rw [measure_eq, measure_eq, h4, h0 hr, h1]; omega

theorem measure_establish_lt_link (L : Layout) (c : Client) (srv : Nat)
    (hm : (L.owner, srv) ∈ c.links) (hs : srv ≠ L.host L.owner) :
    measure L (establish L c L.owner) < measure L c := by
  unfold establish
  rw [if_pos rfl]
  obtain ⟨h1, _, h3, h4⟩ := connect_parts L c L.owner
  have := connect_staleLinks_lt L c L.owner srv hm hs
  rw [measure_eq, measure_eq, h1, h4]; omega

theorem establish_ready (L : Layout) (c : Client) (r : Nat) (hc : c.cached = some r) :
    Ready (establish L c r) := by
  unfold establish
  split
  · exact connect_ready L c r hc
  · dsimp only
    split
    · exact connect_ready L _ _ rfl
    · intro r' h'; cases h'

theorem resolve_spec (L : Layout) (c : Client) :
    measure L (resolve L c) ≤ measure L c ∧
    ∃ r srv, (resolve L c).cached = some r ∧ linkOf (resolve L c) r = some srv := by
  -- the `findRegion` half, whatever the first half left
  have key : ∀ c1 : Client, measure L c1 ≤ measure L c → Ready c1 →
      let c2 := match c1.cached with
        | none => connect L { c1 with cached := some L.owner } L.owner
        | some _ => c1
      measure L c2 ≤ measure L c ∧ ∃ r srv, c2.cached = some r ∧ linkOf c2 r = some srv := by
    intro c1 hm hr
    cases hc1 : c1.cached with
    | some r =>
      obtain ⟨srv, hs⟩ := hr r hc1
      exact ⟨hm, r, srv, hc1, hs⟩
    | none =>
      refine ⟨Nat.le_trans (measure_connect_le L _ _) (Nat.le_trans ?_ hm), L.owner, _,
        (connect_parts L _ _).1, connect_link L _ _⟩
      rw [measure_eq, measure_eq, hc1]
      simp [staleCached]
  unfold resolve
  cases hc : c.cached with
  | none => exact key c (Nat.le_refl _) fun r h => by rw [hc] at h; cases h
  | some r =>
    dsimp only
    cases hl : linkOf c r with
    | some srv =>
      exact key c (Nat.le_refl _) fun r' h => by rw [hc] at h; cases h; exact ⟨srv, hl⟩
    | none => exact key _ (measure_establish_le L c r) (establish_ready L c r hc)

theorem measure_connectionLost_lt (L : Layout) (c : Client) (r srv : Nat) (hd : srv ∈ c.deadConns) :
    measure L (connectionLost L c r srv) < measure L c := by
  unfold connectionLost
  refine Nat.lt_of_le_of_lt (measure_establish_le L _ r) ?_
  have h1 : (c.deadConns.filter (· != srv)).length < c.deadConns.length :=
    List.length_filter_lt_length_iff_exists.mpr ⟨srv, hd, by simp⟩
  have h2 := staleLinks_filter_le L (·.2 != srv) c.links
  rw [measure_eq, measure_eq]
  simp only
  omega

/-- the two classified answers of `serverAnswer` -/
theorem classify_answers :
    classify "org.apache.hadoop.hbase.NotServingRegionException" "" = .nsre ∧
    classify "org.apache.hadoop.hbase.RegionTooBusyException" "" = .retryable := by
  simp [classify_eq, firstHit, contains_empty, hits, Gen.Exceptions.arms, tableOf, lookup, classOfType,
    Gen.Exceptions.retryableTable, Gen.Exceptions.regionTable, Gen.Exceptions.serverTable]

/-- a layout whose application error, if any, is a real (unclassified) one -/
def RealError (L : Layout) : Prop := ∀ cls, L.appError = some cls → cls ∉ tableNames

/-- how an iteration can end: retried with a smaller measure, or at the owner's server; never `stuck`, never a
classified error handed back -/
inductive AttemptSpec (L : Layout) (c : Client) : Outcome × Client → Prop where
  | failed (k : ErrClass) (c' : Client) (h : measure L c' < measure L c) : AttemptSpec L c (.failed k, c')
  | success (c' : Client) : AttemptSpec L c (.success (L.host L.owner) L.owner, c')
  | returned (cls : String) (c' : Client) (h : L.appError = some cls) :
      AttemptSpec L c (.returned cls (L.host L.owner) L.owner, c')

section
/-! `attempt` once the region is resolved and connected, by what the connection and the server do -/
variable (L : Layout) (c : Client) {r srv : Nat} (hc : (resolve L c).cached = some r)
  (hl : linkOf (resolve L c) r = some srv)
include hc hl

theorem attempt_dead (hd : srv ∈ (resolve L c).deadConns) :
    attempt L c = (.failed .server, connectionLost L (resolve L c) r srv) := by
  simp only [attempt, hc, hl, hd, if_true]

theorem attempt_no_exception (hd : srv ∉ (resolve L c).deadConns)
    (ha : serverAnswer L (resolve L c) r srv = none) : attempt L c = (.success srv r, resolve L c) := by
  simp only [attempt, hc, hl, if_neg hd, ha]

/-- The answer's class name is a variable: with the literal in place the kernel evaluates `classify` on
it whenever it compares two forms of the `match`. -/
theorem attempt_answered {cls : String} (hd : srv ∉ (resolve L c).deadConns)
    (ha : serverAnswer L (resolve L c) r srv = some cls) :
    attempt L c =
      match classify cls "" with
      | .nsre => (.failed .nsre, establish L (resolve L c) r)
      | .server => (.failed .server, connectionLost L (resolve L c) r srv)
      | .retryable => (.failed .retryable, { resolve L c with transient := (resolve L c).transient - 1 })
      | .fatal => (.returned cls srv r, resolve L c) := by
  unfold attempt
  simp only [hc, hl, if_neg hd, ha]
  rfl

end

theorem attempt_spec (L : Layout) (hL : RealError L) (c : Client) : AttemptSpec L c (attempt L c) := by
  obtain ⟨hle, r, srv, hc, hl⟩ := resolve_spec L c
  by_cases hd : srv ∈ (resolve L c).deadConns
  · rw [attempt_dead L c hc hl hd]
    exact .failed _ _ (Nat.lt_of_lt_of_le (measure_connectionLost_lt L _ r srv hd) hle)
  · by_cases hbad : r ≠ L.owner ∨ srv ≠ L.host r
    · -- the wrong region or the wrong server: NotServingRegion, and the handler repairs one of the two
      rw [attempt_answered L c hc hl hd (if_pos hbad), classify_answers.1]
      refine .failed _ _ (Nat.lt_of_lt_of_le ?_ hle)
      by_cases hro : r = L.owner
      · subst hro
        exact measure_establish_lt_link L _ srv (linkOf_mem hl) (hbad.resolve_left fun h => h rfl)
      · exact measure_establish_lt_stale L _ r hc hro
    · obtain ⟨hro, hsrv⟩ := not_or.mp hbad
      have hro := Decidable.not_not.mp hro
      have hsrv := Decidable.not_not.mp hsrv
      subst hro; subst hsrv
      by_cases ht : (resolve L c).transient > 0
      · rw [attempt_answered L c hc hl hd ((if_neg hbad).trans (if_pos ht)), classify_answers.2]
        refine .failed _ _ (Nat.lt_of_lt_of_le ?_ hle)
        rw [measure_eq, measure_eq]
        simp only
        omega
      · have hans : serverAnswer L (resolve L c) L.owner (L.host L.owner) = L.appError :=
          (if_neg hbad).trans (if_neg ht)
        cases ha : L.appError with
        | none => rw [attempt_no_exception L c hc hl hd (hans.trans ha)]; exact .success _
        | some cls =>
          rw [attempt_answered L c hc hl hd (hans.trans ha), classify_unknown cls "" (hL cls ha)]
          exact .returned cls _ ha

/-- the good endings of a request: answered by the server hosting the owner of the key, for that
region; or the application's own error, from that same server -/
def AtOwner (L : Layout) (o : Outcome) : Prop :=
  o = .success (L.host L.owner) L.owner ∨
  ∃ cls, L.appError = some cls ∧ o = .returned cls (L.host L.owner) L.owner

theorem sendRPC_progress (L : Layout) (hL : RealError L) :
    ∀ fuel c n, measure L c < fuel →
      ∃ m o, m ≤ measure L c + 1 ∧ 1 ≤ m ∧ sendRPC L fuel c n = some (n + m, o) ∧ AtOwner L o := by
  intro fuel
  induction fuel with
  | zero => intro c n h; omega
  | succ fuel ih =>
    intro c n hlt
    have hs := attempt_spec L hL c
    generalize hat : attempt L c = x at hs
    cases hs with
    | failed k c' hdec =>
      obtain ⟨m, o, hm, _, hrun, hat'⟩ := ih c' (n + 1) (by omega)
      refine ⟨m + 1, o, by omega, by omega, ?_, hat'⟩
      simp only [sendRPC, hat]
      rw [hrun]
      congr 2; omega
    | success c' =>
      exact ⟨1, _, by omega, Nat.le_refl _, by simp only [sendRPC, hat], Or.inl rfl⟩
    | returned cls c' h =>
      exact ⟨1, _, by omega, Nat.le_refl _, by simp only [sendRPC, hat], Or.inr ⟨cls, h, rfl⟩⟩

end GV.ClientSeq
