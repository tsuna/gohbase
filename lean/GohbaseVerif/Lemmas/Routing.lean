import GohbaseVerif.Model.Routing
import GohbaseVerif.Lemmas.Overlaps
/-!
Both lookups — `getRegionFromCache` in the location cache, `Env.Meta`'s answer in `hbase:meta` —
take the last entry that sorts below the search key `t,k,:` and apply the same two checks to it
(`metaAccepts`), so both answer with the owner of `k` (`last_accepted_iff`); `owner_is_last` says why.
-/
namespace GV.Routing
open GV GV.RegionName GV.Cache

theorem cacheGet_eq {l : List Region} {key : Bytes} {p : Nat}
    (hs : seekIdx key l = .ok (p, false)) (hp : p ≤ l.length) :
    cacheGet l key = .ok (l.take p).getLast? := by
  rw [cacheGet, seek, hs]
  cases p with
  | zero => rfl
  | succ n =>
    have hn := Nat.lt_of_succ_le hp
    rw [List.getLast?_take, if_neg (Nat.succ_ne_zero n), Nat.add_one_sub_one,
      List.getElem?_eq_getElem hn, Option.some_or]
    exact congrArg (fun x => Outcome.ok x.1) (Cursor.prev_miss_succ hn)

theorem metaAccepts_iff (t k : Bytes) (m : Region) :
    metaAccepts t k m = true ↔ m.fq = t ∧ (m.stop = [] ∨ bcmp k m.stop = .lt) := by
  simp only [metaAccepts, Bool.and_eq_true, beq_iff_eq, Bool.not_eq_true', Bool.and_eq_false_iff,
    Bool.not_eq_false', bne_eq_false_iff_eq, List.isEmpty_iff]
  exact and_congr_left' eq_comm

/-- `getRegionFromCache` ends with the two checks of `metaLookup`. -/
theorem cacheChecks_eq (t k : Bytes) (x : Region) :
    (if x.fq != t then Outcome.ok none
      else if !x.stop.isEmpty && bcmp k x.stop != .lt then .ok none else .ok (some x))
      = .ok ((some x).filter (metaAccepts t k)) := by
  rw [Option.filter_some, metaAccepts, bne, BEq.comm (a := t)]
  cases (x.fq == t) <;> cases (!x.stop.isEmpty && bcmp k x.stop != .lt) <;> rfl

theorem getRegionFromCache_eq {l : List Region} (hwf : ∀ x ∈ l, x.WF) (hs : Sorted l) {t : Bytes}
    (ht : comma ∉ t) (hlen : t.length + 3 ≤ 32767) (k : Bytes) :
    ∃ p, (∀ x ∈ l.take p, Below t k x) ∧ (∀ y ∈ l.drop p, ¬ Below t k y) ∧
      getRegionFromCache l t k = .ok ((l.take p).getLast?.filter (metaAccepts t k)) := by
  obtain ⟨p, hseek, hp, hb, ha⟩ := seek_searchKey hwf hs ht k
  refine ⟨p, hb, ha, ?_⟩
  simp only [getRegionFromCache, searchKeyO_ok hlen, cacheGet_eq hseek hp]
  cases (l.take p).getLast? with
  | none => rfl
  | some x => exact cacheChecks_eq t k x

/-- Among cached regions that sort below the search key `t,k,:`, only the last can be of table `t`
and reach beyond `k`. -/
theorem owner_is_last {l : List Region} (hg : GoodL l) {F : List Region} (hF : F.Sublist l)
    {t k : Bytes} (hB : ∀ x ∈ F, Below t k x) {o : Region} (ho : o ∈ F) (hfq : o.fq = t)
    (hstop : o.stop = [] ∨ bcmp k o.stop = .lt) : F.getLast? = some o := by
  cases hlast : F.getLast? with
  | none => rw [List.getLast?_eq_none_iff.mp hlast] at ho; simp at ho
  | some v =>
    obtain ⟨F', rfl⟩ := List.getLast?_eq_some_iff.mp hlast
    rcases List.mem_append.mp ho with h | h
    · have hov : [o, v].Sublist (F' ++ [v]) :=
        (List.singleton_sublist.mpr h).append (List.Sublist.refl [v])
      exact absurd hstop (hg.not_reaches (hov.trans hF) (hB v (by simp)) hfq)
    · rw [List.mem_singleton.mp h]

/-- `F`: entries below the search key, among them all those of table `t`. -/
theorem last_accepted_iff {l : List Region} (hg : GoodL l) {F : List Region} (hF : F.Sublist l)
    {t k : Bytes} (hB : ∀ x ∈ F, Below t k x) (hall : ∀ x ∈ l, x.fq = t → Below t k x → x ∈ F)
    (r : Region) :
    F.getLast?.filter (metaAccepts t k) = some r ↔ r ∈ l ∧ r.fq = t ∧ r.contains k := by
  rw [Option.filter_eq_some_iff, metaAccepts_iff]
  constructor
  · rintro ⟨hlast, hfq, hstop⟩
    have hr := List.mem_of_getLast? hlast
    exact ⟨hF.subset hr, hfq, (hB r hr).start_le hfq, hstop⟩
  · rintro ⟨hr, hfq, hstart, hstop⟩
    exact ⟨owner_is_last hg hF hB (hall r hr hfq (.inr ⟨hfq, hstart⟩)) hfq hstop, hfq, hstop⟩

theorem nameLtB_iff (a b : Bytes) :
    nameLtB a b = true ↔ (compareName a b).map signOf = .ok .lt := by
  unfold nameLtB
  cases compareName a b <;> simp [Outcome.map, signOf_lt_iff]

theorem nameLtB_searchKey {x : Region} (hx : x.WF) {t : Bytes} (ht : comma ∉ t) (k : Bytes) :
    nameLtB x.name (searchKeyImpl t k) = true ↔ Below t k x := by
  rw [nameLtB_iff, searchKeyImpl_cut, searchKey, hx.name_eq,
    compare_sign_eq_tuple _ _ _ _ _ _ hx.fqNoComma ht hx.sfxNoComma (by simp [comma]),
    Outcome.ok.injEq]
  exact below_iff hx t k

theorem mem_metaRows {L : List Region} (hwf : ∀ x ∈ L, x.WF) {t : Bytes} (ht : comma ∉ t)
    (k : Bytes) (x : Region) :
    x ∈ L.filter (fun x => x.fq == t && nameLtB x.name (searchKeyImpl t k)) ↔
      x ∈ L ∧ x.fq = t ∧ Below t k x := by
  rw [List.mem_filter, Bool.and_eq_true, beq_iff_eq]
  exact and_congr_right fun h => and_congr_right fun _ => nameLtB_searchKey (hwf x h) ht k

/-- What `Env.Meta` alone gives: `metaLookup` does not check `start ≤ key`. -/
theorem metaRow_sound {L : List Region} (hwf : ∀ x ∈ L, x.WF) {t k : Bytes} (ht : comma ∉ t)
    {m : Region} (h : metaRow L t k = some m) : m ∈ L ∧ m.fq = t ∧ bcmp m.start k ≠ .gt := by
  obtain ⟨h1, h2, hB⟩ := (mem_metaRows hwf ht k m).mp (List.mem_of_getLast? h)
  exact ⟨h1, h2, hB.start_le h2⟩

theorem metaRow_accepted_iff {L : List Region} (hg : GoodL L) {t : Bytes} (ht : comma ∉ t)
    (k : Bytes) (r : Region) :
    (metaRow L t k).filter (metaAccepts t k) = some r ↔ r ∈ L ∧ r.fq = t ∧ r.contains k :=
  have hmem := mem_metaRows hg.wf ht k
  last_accepted_iff hg List.filter_sublist (fun x hx => let ⟨_, _, hB⟩ := (hmem x).mp hx; hB)
    (fun x hx hfq hB => (hmem x).mpr ⟨hx, hfq, hB⟩) r

/-! One equation per exit of a round of `getRegionForRpc`.  The fifth, another round after a `put`
that did not replace, is not taken when the key has an owner (C01, `routeN_owner`). -/

theorem routeN_hit {L : List Region} {c : Cache} {t k : Bytes} {r : Region}
    (h : getRegionFromCache c.regions t k = .ok (some r)) (tries n : Nat) :
    routeN L (tries + 1) c t k n = .ok (some r, c, n) := by
  rw [routeN, h]

theorem routeN_no_row {L : List Region} {c : Cache} {t k : Bytes}
    (h : getRegionFromCache c.regions t k = .ok none) (hm : metaRow L t k = none) (tries n : Nat) :
    routeN L (tries + 1) c t k n = .err "TableNotFound" := by
  rw [routeN, h]; simp only [hm]

theorem routeN_rejected {L : List Region} {c : Cache} {t k : Bytes} {m : Region}
    (h : getRegionFromCache c.regions t k = .ok none) (hm : metaRow L t k = some m)
    (hacc : metaAccepts t k m = false) (tries n : Nat) :
    routeN L (tries + 1) c t k n = .err "meta returned an entry for the wrong table/region" := by
  rw [routeN, h]; simp only [hm, hacc, Bool.not_false, if_true]

theorem routeN_inserted {L : List Region} {c c' : Cache} {t k : Bytes} {m : Region} {ov : List Region}
    (h : getRegionFromCache c.regions t k = .ok none) (hm : metaRow L t k = some m)
    (hacc : metaAccepts t k m = true) (hp : put c m = .ok (c', ov, true)) (tries n : Nat) :
    routeN L (tries + 1) c t k n = .ok (some m, c', n + 1) := by
  rw [routeN, h]; simp only [hm, hacc, hp, Bool.not_true, Bool.false_eq_true, if_false]

end GV.Routing
