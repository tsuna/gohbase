import GohbaseVerif.Model.Cache
import GohbaseVerif.Lemmas.Bcmp
import GohbaseVerif.Props.C16
/-!
A well-formed name `table,start,<decimal id>.<rest>` determines table, start key and id, and names
are ordered as these triples are (`compare_sign_eq_tuple` and the laws of `lex3`, from `Props/C16`).
Then: which names sort below a search key `t,k,:` (`Below`, `below_iff`; `cutKey` is the cut of a long `k`).
-/
namespace GV.Cache
open GV GV.RegionName

theorem dec_small {n : Nat} (h : n < 10) : dec n = [UInt8.ofNat (48 + n)] := by
  rw [dec]; simp [h]

theorem dec_big {n : Nat} (h : ¬ n < 10) :
    dec n = dec (n / 10) ++ [UInt8.ofNat (48 + n % 10)] := by
  rw [dec]; simp [h]

theorem digit_toNat {m : Nat} (h : m < 10) : (UInt8.ofNat (48 + m)).toNat = 48 + m :=
  UInt8.toNat_ofNat_of_lt' (show 48 + m < 256 by omega)

theorem digit_range {m : Nat} (h : m < 10) :
    48 ≤ (UInt8.ofNat (48 + m)).toNat ∧ (UInt8.ofNat (48 + m)).toNat ≤ 57 := by
  rw [digit_toNat h]; omega

theorem dec_digits (n : Nat) : ∀ d ∈ dec n, 48 ≤ d.toNat ∧ d.toNat ≤ 57 := by
  induction n using dec.induct with
  | case1 n h =>
    rw [dec_small h]
    intro d hd
    rw [List.mem_singleton.mp hd]; exact digit_range h
  | case2 n h ih =>
    rw [dec_big h]
    intro d hd
    rcases List.mem_append.mp hd with hd | hd
    · exact ih d hd
    · rw [List.mem_singleton.mp hd]; exact digit_range (Nat.mod_lt n (by decide))

theorem dec_ne_nil (n : Nat) : dec n ≠ [] := by
  by_cases h : n < 10
  · rw [dec_small h]; simp
  · rw [dec_big h]; simp

/-- A left inverse of `dec`, for `dec_inj`. -/
def decVal (b : Bytes) : Nat := b.foldl (fun acc d => acc * 10 + (d.toNat - 48)) 0

theorem decVal_dec (n : Nat) : decVal (dec n) = n := by
  induction n using dec.induct with
  | case1 n h =>
    rw [dec_small h, decVal, List.foldl_cons, List.foldl_nil, digit_toNat h, Nat.zero_mul,
      Nat.zero_add, Nat.add_sub_cancel_left]
  | case2 n h ih =>
    rw [dec_big h, decVal, List.foldl_append, ← decVal, ih, List.foldl_cons, List.foldl_nil,
      digit_toNat (Nat.mod_lt n (by decide)), Nat.add_sub_cancel_left, Nat.div_add_mod']

theorem dec_inj {a b : Nat} (h : dec a = dec b) : a = b := by
  rw [← decVal_dec a, ← decVal_dec b, h]

theorem not_mem_dec {c : UInt8} (hc : c.toNat < 48) (n : Nat) : c ∉ dec n := fun h => by
  have := (dec_digits n c h).1
  omega

/-- What the search key `t,k,:` relies on. -/
theorem idSuffix_lt_colon (n : Nat) (rest : Bytes) : bcmp (dec n ++ dot :: rest) [0x3a] = .lt := by
  cases h : dec n with
  | nil => exact absurd h (dec_ne_nil n)
  | cons d ds =>
    have hd := dec_digits n d (by rw [h]; simp)
    have : d < 0x3a := by
      rw [UInt8.lt_iff_toNat_lt]
      have : (0x3a : UInt8).toNat = 58 := by decide
      omega
    exact bcmp_cons_lt this _ _

/-- A cut at a separator `c` is unique if it is at the first `c` (`.inl`, `.inl`) or at the last
(`.inr`, `.inr`). -/
theorem append_sep_inj {c : UInt8} {x x' y y' : Bytes} (h : x ++ c :: y = x' ++ c :: y')
    (h1 : c ∉ x ∨ c ∉ y') (h2 : c ∉ x' ∨ c ∉ y) : x = x' ∧ y = y' := by
  induction x generalizing x' with
  | nil =>
    cases x' with
    | nil => simpa using h
    | cons a xs =>
      -- the cut on the left is a separator inside `x'`, and `y` holds the other cut
      obtain ⟨e1, e2⟩ := List.cons.inj h
      exact absurd (by simp [e1]) (h2.resolve_right fun hy => hy (by simp [e2]))
  | cons a xs ih =>
    cases x' with
    | nil =>
      obtain ⟨e1, e2⟩ := List.cons.inj h
      exact absurd (by simp [e1]) (h1.resolve_right fun hy => hy (by simp [← e2]))
    | cons b ys =>
      obtain ⟨e1, e2⟩ := List.cons.inj h
      obtain ⟨e3, e4⟩ := ih e2 (h1.imp_left List.not_mem_of_not_mem_cons)
        (h2.imp_left List.not_mem_of_not_mem_cons)
      exact ⟨by rw [e1, e3], e4⟩

theorem mkName_inj {t t' k k' s s' : Bytes} (ht : comma ∉ t) (ht' : comma ∉ t') (hs : comma ∉ s)
    (hs' : comma ∉ s') : mkName t k s = mkName t' k' s' ↔ (t, k, s) = (t', k', s') := by
  constructor
  · intro h
    -- the table ends at the first comma, the id suffix starts after the last
    obtain ⟨e1, h2⟩ := append_sep_inj h (.inl ht) (.inl ht')
    obtain ⟨e2, e3⟩ := append_sep_inj h2 (.inr hs') (.inr hs)
    rw [e1, e2, e3]
  · intro h
    cases h
    rfl

theorem mkName_append (t k s rest : Bytes) : mkName t k s ++ rest = mkName t k (s ++ rest) := by
  simp [mkName]

/-- The id suffix of a name `table,start,suffix`. -/
def Region.sfx (r : Region) : Bytes := r.name.drop (r.fq.length + 1 + r.start.length + 1)

def Region.key3 (r : Region) : Bytes × Bytes × Bytes := (r.fq, r.start, r.sfx)

theorem drop_mkName (t k s : Bytes) : (mkName t k s).drop (t.length + 1 + k.length + 1) = s := by
  -- drop `t`, its comma, `k`, its comma
  rw [mkName, Nat.add_assoc, Nat.add_assoc, ← List.drop_drop, List.drop_left, ← List.drop_drop,
    List.drop_succ_cons, List.drop_zero, ← List.drop_drop, List.drop_left]
  rfl

theorem Region.WF.sfx_eq {r : Region} (h : r.WF) : ∃ rest, r.sfx = dec r.id ++ dot :: rest ∧ comma ∉ rest := by
  obtain ⟨rest, hn, hc⟩ := h.nameShape
  exact ⟨rest, by rw [Region.sfx, hn, drop_mkName], hc⟩

theorem Region.WF.name_eq {r : Region} (h : r.WF) : r.name = mkName r.fq r.start r.sfx := by
  obtain ⟨rest, hn, _⟩ := h.nameShape
  rw [Region.sfx, hn, drop_mkName]

theorem Region.WF.sfxNoComma {r : Region} (h : r.WF) : comma ∉ r.sfx := by
  obtain ⟨rest, hs, hc⟩ := h.sfx_eq
  rw [hs, List.mem_append, List.mem_cons, not_or, not_or]
  exact ⟨not_mem_dec (by decide) _, by decide, hc⟩

theorem Region.WF.sfx_lt_colon {r : Region} (h : r.WF) : bcmp r.sfx [0x3a] = .lt := by
  obtain ⟨rest, hs, _⟩ := h.sfx_eq
  rw [hs]; exact idSuffix_lt_colon _ _

theorem compare_wf_right {x : Region} (hx : x.WF) {t k s : Bytes} (ht : comma ∉ t) (hs : comma ∉ s) :
    (compareName (mkName t k s) x.name).map signOf = .ok (lex3 (t, k, s) x.key3) := by
  rw [hx.name_eq]
  exact compare_sign_eq_tuple _ _ _ _ _ _ ht hx.fqNoComma hs hx.sfxNoComma

theorem nameLt_iff {a b : Region} (ha : a.WF) (hb : b.WF) : nameLt a b ↔ lex3 a.key3 b.key3 = .lt := by
  rw [nameLt, ha.name_eq, compare_wf_right hb ha.fqNoComma ha.sfxNoComma, Outcome.ok.injEq]
  exact Iff.rfl

theorem Region.WF.name_eq_iff {a b : Region} (ha : a.WF) (hb : b.WF) :
    a.name = b.name ↔ a.key3 = b.key3 := by
  rw [ha.name_eq, hb.name_eq]
  exact mkName_inj ha.fqNoComma hb.fqNoComma ha.sfxNoComma hb.sfxNoComma

theorem Region.WF.name_inj {a b : Region} (ha : a.WF) (hb : b.WF) (h : a.name = b.name) :
    a.fq = b.fq ∧ a.start = b.start ∧ a.id = b.id := by
  have e := (ha.name_eq_iff hb).mp h
  simp only [Region.key3, Prod.mk.injEq] at e
  obtain ⟨e1, e2, e3⟩ := e
  obtain ⟨r1, s1, _⟩ := ha.sfx_eq
  obtain ⟨r2, s2, _⟩ := hb.sfx_eq
  rw [s1, s2] at e3
  exact ⟨e1, e2, dec_inj (append_sep_inj e3 (.inl (not_mem_dec (by decide) _))
    (.inl (not_mem_dec (by decide) _))).1⟩

theorem nameLt_ne {a b : Region} (ha : a.WF) (hb : b.WF) (h : nameLt a b) : a.name ≠ b.name := by
  intro e
  have h1 := (nameLt_iff ha hb).mp h
  rw [(ha.name_eq_iff hb).mp e, lex3_refl] at h1
  cases h1

/-- `x` sorts below the search key `t,k,:`. -/
def Below (t k : Bytes) (x : Region) : Prop :=
  bcmp x.fq t = .lt ∨ (x.fq = t ∧ bcmp x.start k ≠ .gt)

theorem nameLt_below {a b : Region} (ha : a.WF) (hb : b.WF) (h : nameLt a b) :
    Below b.fq b.start a := by
  have h1 := (nameLt_iff ha hb).mp h
  rw [Region.key3, Region.key3, lex3_lt_iff] at h1
  unfold Below
  rw [bcmp_ne_gt_iff]
  exact h1.imp_right fun ⟨e, h2⟩ => ⟨e, h2.imp_right And.left⟩

theorem Below.fq_le {t k : Bytes} {x : Region} (hB : Below t k x) : bcmp x.fq t ≠ .gt := by
  rcases hB with h | ⟨e, _⟩
  · rw [h]; decide
  · rw [e, bcmp_refl]; decide

theorem Below.start_le {t k : Bytes} {x : Region} (hB : Below t k x) (hfq : x.fq = t) :
    bcmp x.start k ≠ .gt := by
  rcases hB with h | ⟨_, h⟩
  · rw [hfq] at h; simp at h
  · exact h

/-- The search key `fq,start,:` of a cached region is shorter than its name (the id takes more than
the `:`), so it fits a row; `3` is `searchKeySlack`. -/
theorem Region.WF.fqStartLen {r : Region} (h : r.WF) : r.fq.length + r.start.length + 3 ≤ 32767 := by
  have hlen := h.nameLen
  obtain ⟨rest, hs, _⟩ := h.sfx_eq
  have : 0 < (dec r.id).length := List.length_pos_iff.mpr (dec_ne_nil r.id)
  rw [h.name_eq, hs, mkName] at hlen
  simp only [List.length_append, List.length_cons] at hlen
  omega

theorem Region.WF.startLen {r : Region} (h : r.WF) : r.start.length ≤ 32767 - r.fq.length - 3 := by
  have := h.fqStartLen; omega

/-- The row key as `createRegionSearchKey` takes it: cut to what fits a meta row. -/
def cutKey (t k : Bytes) : Bytes := k.take (32767 - t.length - 3)

theorem searchKeyImpl_cut (t k : Bytes) : searchKeyImpl t k = searchKey t (cutKey t k) := by
  rw [searchKeyImpl_eq, searchKeyN, searchKey, cutKey, Nat.min_comm, ← List.take_eq_take_min]

/-- A start key of table `t` is at most as long as the cut, so cutting the row key changes nothing. -/
theorem below_cutKey {x : Region} (hx : x.WF) (t k : Bytes) : Below t (cutKey t k) x ↔ Below t k x :=
  or_congr_right (and_congr_right fun hfq => bcmp_take_le_iff _ _ _ (hfq ▸ hx.startLen))

/-- Ids sort below `:`, so the id plays no part. -/
theorem below_iff {x : Region} (hx : x.WF) (t k : Bytes) :
    lex3 x.key3 (t, cutKey t k, [0x3a]) = .lt ↔ Below t k x := by
  rw [← below_cutKey hx t k]
  simp only [Region.key3, Below, lex3_lt_iff, bcmp_ne_gt_iff, hx.sfx_lt_colon, and_true]

end GV.Cache
