import GohbaseVerif.Lemmas.Scanner
import GohbaseVerif.Lemmas.ScannerRows
/-!
The scanner as two machines: `pull`, the region walker (the requests `fetch` makes until the scanner
is closed, and the stream of fragments the responses carry), and `cut`, how `Next` cuts that stream
into results. `peek`, the loop of `Next`, `Next` and "`Next` until it fails" are specified against
the stream still to be delivered (`future`), for every script of replies; only "the error at the
end is `io.EOF`" needs the walk to end cleanly (`Pull.ok`).
-/
namespace GV.Scanner
open GV

structure Pull where
  frags : List Frag     -- fragments of all responses, in order
  fin : St              -- state when the walk stops
  rest : List Reply     -- unconsumed script
  ok : Bool             -- false iff an RPC error or the end of the script met the scanner open
  deriving DecidableEq, Repr

def pull (sc : Scan) : List Reply → St → Pull
  | [], s => if s.closed then ⟨[], s, [], true⟩ else ⟨[], onErr sc s (some (.err "starved")), [], false⟩
  | rp :: rest, s =>
    if s.closed then ⟨[], s, rp :: rest, true⟩ else
    match rp with
    | .err c => ⟨[], onErr sc s (some (.err c)), rest, false⟩
    | .resp g r =>
      let p := pull sc rest (onResp sc s g r)
      ⟨r.results ++ p.frags, p.fin, p.rest, p.ok⟩

theorem pull_closed (sc : Scan) (R : List Reply) (s : St) (h : s.closed = true) :
    pull sc R s = ⟨[], s, R, true⟩ := by
  cases R <;> simp [pull, h]

theorem pull_fin_closed (sc : Scan) (R : List Reply) (s : St) : (pull sc R s).fin.closed = true := by
  fun_induction pull sc R s with
  | case1 _ h | case3 _ _ _ h => exact h  -- the scanner is closed
  | case2 | case4 => exact onErr_closed ..  -- script exhausted, RPC error
  | case5 _ _ _ _ _ _ ih => exact ih  -- a response

theorem pull_setBuf (sc : Scan) (R : List Reply) (s : St) (x : List Frag) :
    pull sc R (setBuf s x) =
      ⟨(pull sc R s).frags, setBuf (pull sc R s).fin x, (pull sc R s).rest, (pull sc R s).ok⟩ := by
  have hcl : ∀ s : St, (setBuf s x).closed = s.closed := fun _ => rfl
  fun_induction pull sc R s with
  | case1 _ h | case3 _ _ _ h => simp [pull, hcl, h]  -- closed
  | case2 _ h | case4 _ _ h => simp [pull, hcl, h, onErr_setBuf]  -- script exhausted, RPC error
  | case5 _ _ h _ _ p ih => simp [pull, hcl, h, onResp_setBuf, ih, p]  -- a response

theorem pull_fin_results (sc : Scan) (R : List Reply) (s : St) : (pull sc R s).fin.results = s.results :=
  congrArg (fun p => p.fin.results) (pull_setBuf sc R s s.results)

theorem fetch_pull (sc : Scan) (R : List Reply) (s : St) (h : s.closed = false) :
    match fetch sc R s with
    | (.rows f fs, s1, R1) =>
        pull sc R s = ⟨f :: fs ++ (pull sc R1 s1).frags, (pull sc R1 s1).fin, (pull sc R1 s1).rest,
                       (pull sc R1 s1).ok⟩
    | (.eof, s1, R1) => pull sc R s = ⟨[], s1, R1, true⟩
    | (.err _, s1, R1) => pull sc R s = ⟨[], s1, R1, false⟩ := by
  fun_induction fetch sc R s with
  | case1 | case2 => simp [pull, h]  -- script exhausted, RPC error
  | case3 _ _ _ _ s3 _ _ hr => simp [pull, h, hr, s3]  -- a response with rows
  | case4 _ _ rest _ s3 hr hc =>  -- an empty response that ends the scan
    simp [pull, h, hr, pull_closed sc rest s3 hc, s3]
  | case5 _ _ rest _ s3 hr hc ih =>
    -- an empty response adds no fragments: both sides reduce to the recursive call
    have := ih (by simpa using hc)
    generalize fetch sc rest s3 = t at this ⊢
    obtain ⟨x, s1, R1⟩ := t
    cases x <;> simp [pull, h, hr, s3] at this ⊢ <;> simp [this]

/-- The stream still to be delivered: what is buffered, then what the walk will bring. -/
def future (sc : Scan) (R : List Reply) (s : St) : List Frag := s.results ++ (pull sc R s).frags

/-- States that agree except for the buffer. -/
def sameWalk (a b : St) : Prop := ∃ x, a = setBuf b x

/-- `(R1, s1)` is a later point of the walk that `(R, s)` is on: it ends with the same log, and
cleanly if the walk from `(R, s)` does. -/
structure Later (sc : Scan) (R : List Reply) (s : St) (R1 : List Reply) (s1 : St) : Prop where
  log : (pull sc R1 s1).fin.log = (pull sc R s).fin.log
  ok : (pull sc R s).ok = true → (pull sc R1 s1).ok = true

theorem Later.refl (sc : Scan) (R : List Reply) (s : St) : Later sc R s R s := ⟨rfl, id⟩

theorem Later.trans {sc : Scan} {R R1 R2 : List Reply} {s s1 s2 : St} (h1 : Later sc R s R1 s1)
    (h2 : Later sc R1 s1 R2 s2) : Later sc R s R2 s2 :=
  ⟨h2.log.trans h1.log, fun h => h2.ok (h1.ok h)⟩

theorem Later.setBuf (sc : Scan) (R : List Reply) (s : St) (x : List Frag) :
    Later sc R s R (setBuf s x) :=
  have h := pull_setBuf sc R s x
  { log := by rw [h]; rfl, ok := fun hok => by rw [h]; exact hok }

theorem Later.shift (sc : Scan) (R : List Reply) (s : St) : Later sc R s R (shift s) :=
  Later.setBuf sc R s _

theorem Later.log_of_closed {sc : Scan} {R R1 : List Reply} {s s1 : St} (h : Later sc R s R1 s1)
    (hc : s1.closed = true) : s1.log = (pull sc R s).fin.log := by
  rw [← h.log, pull_closed sc R1 s1 hc]

/-- A walk that brings no fragments: its end is a later point, closed (`pull_fin_closed`), with only
the old buffer left to deliver. -/
theorem Later.of_fin {sc : Scan} {R R1 : List Reply} {s s1 : St} {ok : Bool}
    (h : pull sc R s = ⟨[], s1, R1, ok⟩) : Later sc R s R1 s1 ∧ s1.closed = true ∧ future sc R1 s1 = s.results := by
  have hc : s1.closed = true := by have := pull_fin_closed sc R s; rwa [h] at this
  have hr : s1.results = s.results := by have := pull_fin_results sc R s; rwa [h] at this
  have h1 := pull_closed sc R1 s1 hc
  exact ⟨⟨by rw [h1, h], fun _ => by rw [h1]⟩, hc, by simp [future, h1, hr]⟩

theorem peek_spec (sc : Scan) (R : List Reply) (s : St) {x : PeekRes} {s1 : St} {R1 : List Reply} :
    peek sc R s = (x, s1, R1) →
    Later sc R s R1 s1 ∧ future sc R1 s1 = future sc R s ∧
    match x with
    | .frag f => ∃ fs, s1.results = f :: fs
    | .eof => s1.closed = true ∧ future sc R s = [] ∧ (pull sc R s).ok = true
    | .err _ => s1.closed = true ∧ future sc R s = [] ∧ (pull sc R s).ok = false := by
  unfold peek
  cases hres : s.results with
  | cons f fs => intro h; cases h; exact ⟨Later.refl .., rfl, fs, hres⟩
  | nil =>
    by_cases hc : s.closed = true
    · rw [if_pos hc]
      intro h; cases h
      exact ⟨Later.refl .., rfl, hc, by simp [future, hres, pull_closed sc R s hc], by rw [pull_closed sc R s hc]⟩
    · rw [if_neg hc]
      have hf := fetch_pull sc R s (by simpa using hc)
      generalize fetch sc R s = t at hf ⊢
      obtain ⟨y, s2, R2⟩ := t
      cases y with
      | rows f fs =>
        intro h; cases h
        refine ⟨Later.trans ⟨by rw [hf], by rw [hf]; exact id⟩ (Later.setBuf sc _ s2 (f :: fs)), ?_, fs, rfl⟩
        show f :: fs ++ (pull sc _ (setBuf s2 (f :: fs))).frags = _
        simp [future, pull_setBuf, hres, hf]
      | eof | err c =>
        intro h; cases h
        obtain ⟨h1, h2, h3⟩ := Later.of_fin hf
        exact ⟨h1, h3.trans (by simp [future, hf]), h2, by simp [future, hres, hf], by rw [hf]⟩

theorem future_cons (sc : Scan) (R : List Reply) (s : St) (f : Frag) (fs : List Frag)
    (h : s.results = f :: fs) : future sc R s = f :: future sc R (shift s) := by
  have e : shift s = setBuf s fs := by simp [shift, setBuf, h]
  rw [future, future, e, pull_setBuf, h]; rfl

def Item.ok (f : Frag) : Item := ⟨some f, none⟩
def Item.eof : Item := ⟨none, some "EOF"⟩

theorem coalesce_refused_complete (acc : Option Frag) (p : Frag) (h : (coalesce acc p).2 = false) :
    (coalesce acc p).1.part = false := by
  -- of the two branches that answer `false`, one has tested the flag and the other clears it
  fun_cases coalesce acc p <;> simp_all [coalesce]

/-- A call at `(R, s)` with `d` to deliver (a result and the stream after it, or nothing) returned
an item and left `(R1, s1)`. A result is delivered whatever the script; an error is `io.EOF`,
with nothing to deliver, if the walk ends cleanly. -/
inductive Delivers (sc : Scan) (R : List Reply) (s : St) (d : Option (Frag × List Frag))
    (R1 : List Reply) (s1 : St) : Item → Prop where
  | result (res : Frag) (hl : Later sc R s R1 s1) (hd : d = some (res, future sc R1 s1)) :
      Delivers sc R s d R1 s1 (Item.ok res)
  | error (res : Option Frag) (e : String) (hl : Later sc R s R1 s1) (hc : s1.closed = true)
      (hf : future sc R1 s1 = [])
      (hok : (pull sc R s).ok = true → res = none ∧ e = "EOF" ∧ d = none) :
      Delivers sc R s d R1 s1 ⟨res, some e⟩

theorem Delivers.of_later {sc : Scan} {R R' R1 : List Reply} {s s' s1 : St}
    {d : Option (Frag × List Frag)} {it : Item} (h1 : Later sc R s R' s')
    (h2 : Delivers sc R' s' d R1 s1 it) : Delivers sc R s d R1 s1 it := by
  cases h2 with
  | result res hl hd => exact .result res (h1.trans hl) hd
  | error res e hl hc hf hok => exact .error res e (h1.trans hl) hc hf fun h => hok (h1.ok h)

theorem future_lt (sc : Scan) (R : List Reply) (s : St) : (future sc R s).length < measure R s + 1 := by
  suffices (future sc R s).length ≤ measure R s by omega
  unfold future
  fun_induction pull sc R s with
  | case1 | case2 | case3 | case4 => simp [measure]  -- the walk stops: no more fragments
  | case5 _ s _ g r p ih =>
    -- the response weighs one more than the fragments it carries
    simp [measure, onResp_results, p] at ih ⊢; omega

theorem nextLoop_spec (sc : Scan) (fuel : Nat) (acc : Option Frag) (R : List Reply) (s : St)
    (h : (future sc R s).length < fuel) :
    ∃ it s1 R1, nextLoop sc fuel acc R s = some (it, s1, R1) ∧
      Delivers sc R s (assemble1 acc (future sc R s)) R1 s1 it := by
  induction fuel generalizing acc R s with
  | zero => omega
  | succ n ih =>
    unfold nextLoop
    rcases hpk : peek sc R s with ⟨y, s', R'⟩
    obtain ⟨hl, hf, hy⟩ := peek_spec sc R s hpk
    cases y with
    | eof =>
      obtain ⟨hc, hF, hok⟩ := hy
      rw [hF]
      cases acc with
      | none => exact ⟨_, _, _, rfl, .error none "EOF" hl hc (hf.trans hF) fun _ => ⟨rfl, rfl, rfl⟩⟩
      | some a => exact ⟨_, _, _, rfl, .result _ hl (by rw [hf.trans hF]; rfl)⟩
    | err c =>
      obtain ⟨hc, hF, hok⟩ := hy
      exact ⟨_, _, _, rfl, .error acc c hl hc (hf.trans hF) fun h => by rw [hok] at h; cases h⟩
    | frag p =>
      obtain ⟨fs, hfs⟩ := hy
      simp only []
      have hcons := future_cons sc R' s' p fs hfs
      rw [← hf, hcons] at h ⊢
      have hsh := Later.shift sc R' s'
      by_cases hd : (coalesce acc p).2 = true
      · simp only [hd, if_true]
        by_cases hpart : (coalesce acc p).1.part = true
        · -- `p` is taken and the row goes on: the stream is one fragment shorter
          simp only [hpart, Bool.not_true, Bool.false_eq_true, if_false, assemble1, hd, if_true]
          obtain ⟨it, s1, R1, hx, hdl⟩ := ih (some (coalesce acc p).1) R' (shift s') (by simpa using h)
          exact ⟨it, s1, R1, hx, hdl.of_later (hl.trans hsh)⟩
        · -- `p` is taken and completes the row
          simp only [hpart, Bool.not_false, if_true]
          exact ⟨_, _, _, rfl, .result _ (hl.trans hsh) (by simp [assemble1, hd, hpart])⟩
      · -- `p` starts the next row: it stays in the buffer
        have hpart := coalesce_refused_complete acc p (by simpa using hd)
        simp only [hd, Bool.false_eq_true, if_false, hpart, Bool.not_false, if_true]
        exact ⟨_, _, _, rfl, .result _ hl (by simp [assemble1, hd, hcons])⟩

theorem nextLoop_isSome (sc : Scan) (fuel : Nat) (acc : Option Frag) (R : List Reply) (s : St)
    (h : (future sc R s).length < fuel) : (nextLoop sc fuel acc R s).isSome := by
  obtain ⟨_, _, _, hx, _⟩ := nextLoop_spec sc fuel acc R s h
  rw [hx]; rfl

theorem nextLoop_mono (sc : Scan) (fuel : Nat) (acc : Option Frag) (R : List Reply) (s : St)
    (x : Item × St × List Reply) (h : nextLoop sc fuel acc R s = some x) :
    nextLoop sc (fuel + 1) acc R s = some x := by
  fun_induction nextLoop sc fuel acc R s with
  | case1 => cases h  -- no fuel
  | case2 _ _ _ _ _ hpk | case3 _ _ _ _ _ hpk | case4 _ _ _ _ _ _ _ hpk =>  -- `peek`: end or error
    rw [nextLoop, hpk]; exact h
  | case5 _ _ _ _ _ _ _ hpk _ _ hpart =>  -- a fragment that completes the result
    rw [nextLoop, hpk]; exact (if_pos hpart).trans h
  | case6 _ _ _ _ _ _ _ hpk _ _ hpart ih =>  -- a fragment after which the row goes on
    rw [nextLoop, hpk]; exact (if_neg hpart).trans (ih h)

/-- One `Next` on the stream: the head fragment with `AllowPartialResults`, else a whole row. -/
def cut (sc : Scan) (X : List Frag) : Option (Frag × List Frag) :=
  if sc.allowPartial then (match X with | [] => none | f :: X => some (f, X)) else assemble1 none X

theorem cut_length {sc : Scan} {X X' : List Frag} {r : Frag} (h : cut sc X = some (r, X')) :
    X'.length < X.length := by
  unfold cut at h
  split at h
  · cases X with
    | nil => cases h
    | cons f X => cases h; simp
  · exact assemble1_none_length _ _ _ h

/-- `all X` is what cutting the stream `X` by `cut` again and again gives. -/
def CutsAll (sc : Scan) (all : List Frag → List Frag) : Prop :=
  ∀ X, all X = match cut sc X with | none => [] | some (r, X') => r :: all X'

theorem cutsAll_id {sc : Scan} (h : sc.allowPartial = true) : CutsAll sc id := by
  intro X
  simp only [cut, h, if_true]; cases X <;> rfl

theorem cutsAll_assembleAll {sc : Scan} (h : sc.allowPartial = false) : CutsAll sc (assembleAll none) := by
  intro X
  rw [assembleAll_eq_assemble1]
  simp only [cut, h, Bool.false_eq_true, if_false]
  cases assemble1 none X <;> rfl

theorem next_spec (sc : Scan) (R : List Reply) (s : St) {it : Item} {s1 : St} {R1 : List Reply}
    (h : next sc false R s = (it, s1, R1)) : Delivers sc R s (cut sc (future sc R s)) R1 s1 it := by
  revert h
  unfold next cut
  simp only [Bool.false_and, Bool.false_eq_true, if_false]
  by_cases hp : sc.allowPartial = true
  · simp only [hp, if_true]
    rcases hpk : peek sc R s with ⟨y, s', R'⟩
    obtain ⟨hl, hf, hy⟩ := peek_spec sc R s hpk
    intro h
    cases y with
    | frag f =>
      cases h
      obtain ⟨fs, hfs⟩ := hy
      rw [← hf, future_cons sc _ s' f fs hfs]
      exact .result f (hl.trans (Later.shift ..)) rfl
    | eof =>
      cases h
      obtain ⟨hc, hF, -⟩ := hy
      rw [hF]
      exact .error none "EOF" hl hc (hf.trans hF) fun _ => ⟨rfl, rfl, rfl⟩
    | err c =>
      cases h
      obtain ⟨hc, hF, hok⟩ := hy
      exact .error none c hl hc (hf.trans hF) fun h => by rw [hok] at h; cases h
  · simp only [hp, Bool.false_eq_true, if_false]
    obtain ⟨it', s1', R1', hx, hd⟩ := nextLoop_spec sc _ none R s (future_lt sc R s)
    rw [hx]
    intro h; cases h
    exact hd

theorem next_of_closed (sc : Scan) (c : Bool) (R : List Reply) (s : St) (hc : s.closed = true)
    (hr : s.results = []) : next sc c R s = (Item.eof, s, R) := by
  have hpk : peek sc R s = (.eof, s, R) := by simp [peek, hr, hc]
  unfold next
  simp only [hc, Bool.not_true, Bool.and_false, Bool.false_eq_true, if_false]
  split
  · simp [hpk, Item.eof]
  · simp [nextLoop, hpk, Item.eof]

theorem next_err_closed (sc : Scan) (c : Bool) (R : List Reply) (s : St)
    (h : (next sc c R s).1.err.isSome) :
    (next sc c R s).2.1.closed = true ∧ (next sc c R s).2.1.results = [] := by
  by_cases hc : (c && !s.closed) = true
  · simp only [next, hc, if_true]
    exact ⟨close_closed sc s, trivial⟩
  · have e : next sc c R s = next sc false R s := by simp [next, hc]
    rw [e] at h ⊢
    rcases hn : next sc false R s with ⟨it, s1, R1⟩
    rw [hn] at h
    cases next_spec sc R s hn with
    | result res => cases h
    | error res e hl hc hf => exact ⟨hc, (List.append_eq_nil_iff.mp hf).1⟩

theorem collectN_spec (sc : Scan) (n : Nat) (R : List Reply) (s : St)
    (hn : (future sc R s).length < n) :
    Later sc R s (collectN sc n R s).2.2 (collectN sc n R s).2.1 ∧
    (collectN sc n R s).2.1.closed = true ∧
    ∀ all, CutsAll sc all → (pull sc R s).ok = true →
      (collectN sc n R s).1 = (all (future sc R s)).map Item.ok ++ [Item.eof] := by
  induction n generalizing R s with
  | zero => omega
  | succ n ih =>
    unfold collectN
    rcases hnx : next sc false R s with ⟨it, s1, R1⟩
    cases next_spec sc R s hnx with
    | error res e hl hc hf hok =>
      refine ⟨hl, hc, fun all hall hok' => ?_⟩
      obtain ⟨rfl, rfl, hcut⟩ := hok hok'
      rw [hall, hcut]; rfl
    | result res hl hcut =>
      have hlen : (future sc R1 s1).length < (future sc R s).length := cut_length hcut
      obtain ⟨hl2, hc2, h2⟩ := ih R1 s1 (by omega)
      refine ⟨hl.trans hl2, hc2, fun all hall hok => ?_⟩
      rw [hall, hcut]
      exact congrArg (Item.ok res :: ·) (h2 all hall (hl.ok hok))

theorem collect_spec (sc : Scan) (R : List Reply) :
    (collect sc R).2.1.closed = true ∧
    (collect sc R).2.1.log = (pull sc R (St.init sc)).fin.log ∧
    ∀ all, CutsAll sc all → (pull sc R (St.init sc)).ok = true →
      (collect sc R).1 = (all (pull sc R (St.init sc)).frags).map Item.ok ++ [Item.eof] := by
  obtain ⟨hl, hc, hs⟩ := collectN_spec sc _ R (St.init sc) (future_lt sc R (St.init sc))
  exact ⟨hc, hl.log_of_closed hc, hs⟩

end GV.Scanner
