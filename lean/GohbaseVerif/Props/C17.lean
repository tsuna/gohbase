import GohbaseVerif.Lemmas.Retry
/-!
# C17 — Retries back off and never become a hot loop

`Gen.Backoff` (growth formula, start value, shape of the wait) and `Gen.RetryLoop` (what each
error class does in each retry loop) are regenerated from rpc.go on every run: the theorems
below are statements about the source as it stands.
-/
namespace GV.Retry
open GV.Gen GV.Gen.RetryLoop

/-- The one schedule: 16 ms doubling to 8.192 s, then +5 s up to 33.192 s, then constant. -/
theorem schedule_exact :
    (List.range 18).map sched =
      [16, 32, 64, 128, 256, 512, 1024, 2048, 4096, 8192,
       13192, 18192, 23192, 28192, 33192, 33192, 33192, 33192].map (· * msec) := by
  decide

/-- The growth formula in the source is the one the property states. -/
theorem growth_formula (b : Int) :
    Backoff.nextBackoff b =
      if b < 5000 * msec then b * 2 else if b < 30000 * msec then b + 5000 * msec else b := by
  unfold Backoff.nextBackoff msec; rfl

theorem schedule_constant_from_14 (n : Nat) (h : 14 ≤ n) : sched n = 33192 * msec := by
  induction h with
  | refl => decide
  | step _ ih =>
    -- 33192 ms is past 30000 ms, where the formula grows no more
    rw [sched, ih, growth_formula, if_neg (by decide), if_neg (by decide)]

theorem schedule_monotone (n : Nat) : sched n ≤ sched (n + 1) := sched_mono n

theorem schedule_bounded (n : Nat) : 16 * msec ≤ sched n ∧ sched n ≤ 33192 * msec := by
  constructor
  · rw [← backoffStart_eq]; exact sched_le_of_le (Nat.zero_le n)
  · rw [← schedule_constant_from_14 (max n 14) (Nat.le_max_right n 14)]
    exact sched_le_of_le (Nat.le_max_left n 14)

/-- The wait inside `sleepAndIncreaseBackoff` lasts the whole back-off and has exactly two ways out, the
timer and the context: it ends early only through cancellation, which returns the context error. -/
theorem wait_ends_early_only_by_cancel :
    (∀ b, Backoff.sleepFor b = b) ∧ Backoff.waitCases = 2 ∧ Backoff.waitHasCtxCase = true ∧
      Backoff.ctxCaseReturnsErr = true ∧ Backoff.shapeOk = true ∧ RetryLoop.shapeOk = true := by
  refine ⟨fun _ => rfl, ?_, ?_, ?_, ?_, ?_⟩ <;> decide

/-- Whatever the outcome sequence, the waits of a single call are, in order, an initial segment
of the schedule. -/
theorem sendRPC_sleeps_follow_schedule (outs : List Cls) :
    ∃ k, sleepsOf (sendRPC Backoff.nextBackoff sendRPCArms sendRPCInit outs) = schedFrom 0 k := by
  rw [sendRPCInit_eq]; exact runRPC_sleeps outs 0 0

/-- A retry-later answer (region opening / too busy / call queue too big / throttling …) is
always followed by a wait before the next attempt. -/
theorem retryable_always_sleeps (outs : List Cls) :
    immediateRetries .retryable (sendRPC Backoff.nextBackoff sendRPCArms sendRPCInit outs) = 0 := by
  rw [sendRPCInit_eq]; exact Nat.le_zero.mp (runRPC_immediate_bound .retryable outs 0 0)

/-- A connection-level failure is retried immediately at most twice per request; after that
every such failure is followed by a wait from the schedule. -/
theorem server_error_immediate_at_most_twice (outs : List Cls) :
    immediateRetries .server (sendRPC Backoff.nextBackoff sendRPCArms sendRPCInit outs) ≤ 2 := by
  rw [sendRPCInit_eq]; exact runRPC_immediate_bound .server outs 0 0

/-- A region-level refusal (NotServingRegion) is retried immediately at most twice per request as well,
then waits from the schedule — also when the region passes its availability probe each time and
refuses the request itself: the NotServingRegionError arm shares the ServerError arm's counter. -/
theorem region_error_immediate_at_most_twice (outs : List Cls) :
    immediateRetries .nsre (sendRPC Backoff.nextBackoff sendRPCArms sendRPCInit outs) ≤ 2 := by
  rw [sendRPCInit_eq]; exact runRPC_immediate_bound .nsre outs 0 0

/-- Every failed lookup (hbase:meta unreachable, ZooKeeper error) is followed by a wait, and
the waits are the schedule from its first entry. -/
theorem lookup_backs_off (n : Nat) :
    lookupRegion_initBackoff = some (sched 0) ∧ lookupAllRegions_initBackoff = some (sched 0) ∧
    lookupRegion_sleepThreadsBackoff = 1 ∧ lookupAllRegions_sleepThreadsBackoff = 1 ∧
    sleepsOf (lookupLoop Backoff.nextBackoff (sched 0) n) = schedFrom 0 n :=
  ⟨by decide, by decide, by decide, by decide, lookupLoop_sleeps n 0⟩

/-- Table administration (`checkProcedureWithBackoff` behind CreateTable / DeleteTable / EnableTable /
DisableTable, regenerated facts `checkProcedure_*`): the loop has the shape of the lookup loop (ask for
the procedure's state; while it is running, wait and ask again), starts at the first entry of the
schedule and threads the grown back-off through: a long-running procedure is polled at the decaying
rate of the schedule, under the caller's context. -/
theorem procedure_polls_back_off (n : Nat) :
    checkProcedure_initBackoff = some (sched 0) ∧ checkProcedure_sleepThreadsBackoff = 1 ∧
    checkProcedure_sleepCtx = ["ctx"] ∧
    sleepsOf (lookupLoop Backoff.nextBackoff (sched 0) n) = schedFrom 0 n :=
  ⟨by decide, by decide, by decide, lookupLoop_sleeps n 0⟩

/-- what a final answer means; `.running` is not one and its value here is never asked for (`ha : a ≠ .running`) -/
def ProcAns.result : ProcAns → ProcRes
  | .finished => .ok | .exception => .procException | .notFound => .notFound | .running => .exhausted

theorem procLoop_running_prefix (n j : Nat) (a : ProcAns) (rest : List ProcAns) (ha : a ≠ .running) :
    procLoop Backoff.nextBackoff (sched j) (List.replicate n .running ++ a :: rest)
      = (a.result, n + 1, schedFrom j n) := by
  induction n generalizing j with
  | zero => cases a <;> simp_all [procLoop, ProcAns.result, schedFrom]
  | succ n ih => simp [List.replicate_succ, procLoop, sleepAndIncrease_sched, ih, schedFrom]

/-- An admin call whose procedure is reported RUNNING `n` times and then gets a final answer sends exactly
`n + 1` polls, waits the first `n` entries of the schedule between them, and ends with what that first
final answer means, whatever the master would have answered afterwards. -/
theorem procedure_result_is_first_final_answer (n : Nat) (a : ProcAns) (rest : List ProcAns)
    (ha : a ≠ .running) :
    procLoop Backoff.nextBackoff (sched 0) (List.replicate n .running ++ a :: rest)
      = (a.result, n + 1, schedFrom 0 n) := procLoop_running_prefix n 0 a rest ha

/-- non-vacuity: three RUNNING answers, then an exception; the answer after it is never asked for -/
example : procLoop Backoff.nextBackoff (sched 0) [.running, .running, .running, .exception, .finished]
    = (.procException, 4, [16 * msec, 32 * msec, 64 * msec]) := by decide

/-- Region (re-)establishment: the first attempt is immediate, every later attempt is preceded by
the next wait of the schedule (so a region that never comes online is probed at a decaying rate). -/
theorem establish_backs_off (n : Nat) :
    establishRegion_initBackoff = some 0 ∧ establishRegion_sleepThreadsBackoff = 1 ∧
    sleepsOf (establishLoop Backoff.nextBackoff 0 n) = schedFrom 0 n := by
  refine ⟨by decide, by decide, ?_⟩
  cases n with
  | zero => simp [establishLoop, sleepAndIncrease_zero, sleepsOf, schedFrom]
  | succ n =>
    simp only [establishLoop, sleepAndIncrease_zero]
    have := establishLoop_sleeps n 0
    -- `sleepAndIncrease_zero` has left `backoffStart`, which is what `sched 0` unfolds to
    simp only [sched] at this
    simp [sleepsOf, this]

theorem sendBatch_guard : sendBatch_immediateGuard = some ("immediateRetries", 1) := rfl

/-- Batched calls: a round that failed only with connection/region errors is retried immediately
at most twice per batch; a round with a retry-later answer always waits. -/
theorem batch_immediate_at_most_twice (rounds : List Bool) :
    sendBatch_initBackoff = some (sched 0) ∧
    immediateRetries .server
      (sendBatchRounds Backoff.nextBackoff sendBatch_immediateGuard ⟨sched 0, 0⟩ rounds) ≤ 2 ∧
    immediateRetries .retryable
      (sendBatchRounds Backoff.nextBackoff sendBatch_immediateGuard ⟨sched 0, 0⟩ rounds) = 0 := by
  rw [sendBatch_guard]
  exact ⟨by decide, runBatch_immediate_bound .server rounds 0 0,
    Nat.le_zero.mp (runBatch_immediate_bound .retryable rounds 0 0)⟩

/-- The immediate-retry counters are only ever initialised to 0 and incremented (a reset anywhere
in the loop would defeat the "at most twice" bound that the loop models above assume). -/
theorem retry_counters_never_reset :
    sendRPC_serverErrorCount_writes = [":=0", "++"] ∧
    sendBatch_immediateRetries_writes = [":=0", "++"] := by decide

example : sendRPC Backoff.nextBackoff sendRPCArms sendRPCInit [.server, .server, .server, .retryable, .ok] =
    [.attempt .server, .attempt .server, .attempt .server, .sleep (16 * msec),
     .attempt .retryable, .sleep (32 * msec), .attempt .ok] := by
  decide +kernel
example : establishLoop Backoff.nextBackoff 0 2 =
    [.attempt .retryable, .sleep (16 * msec), .attempt .retryable, .sleep (32 * msec), .attempt .ok] := by
  decide

/-! ## What the environment sees: the rate of one retry loop

The rate scenarios of the harness record the times at which the failing thing (ZooKeeper, hbase:meta,
a regionserver) is asked. `t k` is the time of the k-th attempt of one loop. -/

def cumulative (k : Nat) : Int := ((List.range k).map sched).sum

/-- **One loop that waits at least the scheduled time between consecutive attempts cannot make its k-th
attempt before the first k waits have passed** — the bound the driver checks on the attempt times of
every rate scenario (`rate-above-schedule`) besides the gap-by-gap comparison; it is what "the request
rate is bounded and decays" amounts to for the environment. -/
theorem attempts_stay_under_schedule (t : Nat → Int) (h : ∀ k, sched k ≤ t (k + 1) - t k) (k : Nat) :
    cumulative k ≤ t k - t 0 := by
  induction k with
  | zero => simp [cumulative]
  | succ n ih =>
    have hn := h n
    have : cumulative (n + 1) = cumulative n + sched n := by
      simp only [cumulative, List.range_succ, List.map_append, List.map_cons, List.map_nil,
        List.sum_append, List.sum_cons, List.sum_nil, Int.add_zero]
    omega

/-- Two loops for one failing region, each on the schedule by itself (the seeded change C17-m9: a second
establisher started 60 ms after the first), break that bound: the fourth attempt the environment sees
comes at 76 ms, before the 16 + 32 + 64 = 112 ms one loop needs. -/
example : cumulative 3 = 112 * msec ∧ (76 : Int) * msec < cumulative 3 := by decide

/-! ## The monitor for observed gaps (`greedyFollows`, used by `Drive/C17.lean`) -/

/-- The greedy judgement of the observed gaps answers exactly the question the property asks:
it accepts iff **some** choice of at most `k - d` gaps to leave out (the immediate retries the
property allows) makes every remaining gap long enough for its slot of the schedule. Neither
direction needs anything about `p` (not even that the schedule grows). -/
theorem greedy_decides_some_choice (p : Nat → Nat → Bool) (k : Nat) :
    ∀ (gaps : List Nat) (i d : Nat), d ≤ k →
      (greedyFollows p k gaps i d = true ↔
        ∃ w : List Nat, w.Sublist gaps ∧ gaps.length ≤ w.length + (k - d) ∧ gapsOk p w i = true) := by
  intro gaps
  induction gaps with
  | nil => exact fun i d _ => ⟨fun _ => ⟨[], .refl _, Nat.zero_le _, rfl⟩, fun _ => rfl⟩
  | cons g gs ih =>
    intro i d hd
    show _ ↔ Fits p (g :: gs) i (k - d)
    rw [greedyFollows]
    by_cases hp : p i g = true
    · rw [if_pos hp, fits_cons_of_ok hp]; exact ih (i + 1) d hd
    · rw [if_neg hp, fits_cons_of_short hp]
      by_cases hdk : d < k
      · rw [if_pos hdk, ih i (d + 1) hdk, show k - (d + 1) = k - d - 1 by omega]
        exact ⟨fun h => ⟨by omega, h⟩, fun h => h.2⟩
      · rw [if_neg hdk]
        exact ⟨fun h => (nomatch h), fun h => absurd h.1 (by omega)⟩

/-- non-vacuity: a loaded machine's slow immediate retry (14.9 ms) followed by the schedule's waits
is accepted with two gaps to spare, a third short gap is not -/
example : greedyFollows (fun i g => g ≥ 16 * 2 ^ i) 2 [14, 16, 34, 64] 0 0 = true ∧
    greedyFollows (fun i g => g ≥ 16 * 2 ^ i) 2 [1, 1, 1, 16] 0 0 = false := by decide

end GV.Retry
