import GohbaseVerif.Gen.Selects
import GohbaseVerif.Gen.Exits
/-!
# C13 — Cancellation is honoured promptly in every state

`Gen.Selects` is regenerated from the Go source on every run: every `select` (with its cases),
every bare channel operation / `sync.Once.Do`, every `go` statement of rpc.go, scanner.go,
client.go, caches.go, admin_client.go and region/*.go.  The obligations below are closed facts
about that table, so a new blocking operation in the source that is on none of the lists makes
`no_unlisted_blocking` / `bare_ops_all_justified` fail to check.  They are evaluated by the kernel alone
(`decide +kernel`; on the choice see DESIGN.md §14.7).
-/
namespace GV.Cancel
open GV.Gen.Selects

/-- A wait on a caller path: the `select` (file, function, ordinal) and the case that carries the
context of the call the wait serves. -/
structure Wait where
  file : String
  fn : String
  ord : Nat
  ctxCase : String
  deriving Repr, DecidableEq

/-- Every wait a goroutine executing an API call (`SendRPC`, `SendBatch`, `Scanner.Next`, admin
calls) can block in. -/
def callerWaits : List Wait := [
  -- waiting for a region to become available (first look, and after marking it unavailable)
  ⟨"gohbase", "client.getRegionAndClientForRPC", 0, "recv:ctx.Done()"⟩,
  ⟨"gohbase", "client.getRegionAndClientForRPC", 1, "recv:ctx.Done()"⟩,
  -- SendBatch waiting for the results of one region server's share
  ⟨"gohbase", "client.waitForCompletion", 0, "recv:ctx.Done()"⟩,
  -- single call waiting for its result
  ⟨"gohbase", "sendBlocking", 0, "recv:ctx.Done()"⟩,
  -- back-off sleep of SendRPC / SendBatch / lookupRegion / lookupAllRegions
  ⟨"gohbase", "sleepAndIncreaseBackoff", 0, "recv:ctx.Done()"⟩,
  -- ZooKeeper lookup (meta / master address)
  ⟨"gohbase", "client.zkLookup", 0, "recv:ctx.Done()"⟩,
  -- handing a batch to the writer goroutine (blocks while the queue is full)
  ⟨"region", "client.QueueBatch", 0, "recv:ctx.Done()"⟩,
  -- unbatched send: checks the call's context before writing
  ⟨"region", "client.QueueRPC", 0, "recv:rpc.Context().Done()"⟩,
  -- scanner: checks the scan's context before every fetch
  ⟨"gohbase", "scanner.Next", 0, "recv:s.rpc.Context().Done()"⟩]

def Wait.matches (w : Wait) (s : Sel) : Bool :=
  s.file == w.file && s.fn == w.fn && s.ord == w.ord

def Wait.present (w : Wait) : Bool :=
  selects.any fun s => w.matches s && s.cases.contains w.ctxCase

/-- Every wait on a caller path exists in the source as a `select` that has a case on
the context of the call it serves. -/
theorem caller_waits_cancellable : ∀ w ∈ callerWaits, w.present = true := by decide +kernel

/-- `waitForCompletion` additionally watches each call's own context (fix d985bcf). -/
theorem batch_wait_watches_call_context :
    selects.any (fun s => s.fn == "client.waitForCompletion" && s.ord == 0 &&
      s.cases.contains "recv:ctx.Done()" && s.cases.contains "recv:rpc.Context().Done()") = true := by
  decide +kernel

example : callerWaits.length = 9 := by decide
/-- negative: a wait that is not in the source is not `present` -/
example : (Wait.mk "gohbase" "client.getRegionAndClientForRPC" 2 "recv:ctx.Done()").present = false := by
  decide +kernel
/-- negative: a select without the context case is not accepted (`reestablishRegion` #0 has only
`c.done`) -/
example : (Wait.mk "gohbase" "client.reestablishRegion" 0 "recv:ctx.Done()").present = false := by
  decide +kernel

/-- Blocking `select`s of background goroutines, which serve no caller.  (file, fn, ord) -/
def backgroundWaits : List (String × String × Nat) := [
  -- writer goroutine idle: waits for the first batch or for the connection to die (`c.done`)
  ("region", "client.processRPCs", 1),
  -- writer goroutine collecting a batch: waits for more calls, the flush timer or `c.done`
  ("region", "client.processRPCs", 2),
  -- scanner lease renewal goroutine: ticker or its own cancellable context (cancelled by Close/EOF)
  ("gohbase", "scanner.renewLoop", 0),
  -- CreateSnapshot polling loop: ticker or the caller's ctx (it has the `ctx.Done()` case, see below)
  ("gohbase", "client.CreateSnapshot", 0)]

def isCallerWait (s : Sel) : Bool := callerWaits.any fun w => w.matches s
def nonBlocking (s : Sel) : Bool := s.cases.contains "default"
def isBackground (s : Sel) : Bool := backgroundWaits.contains (s.file, s.fn, s.ord)

/-- EVERY `select` of the source is a listed caller wait (which has the context case by
`caller_waits_cancellable`), or non-blocking (`default`), or an allow-listed background wait. -/
theorem no_unlisted_blocking :
    ∀ s ∈ selects, (isCallerWait s || nonBlocking s || isBackground s) = true := by decide +kernel

/-- The allow-listed background waits all exist and every one of them can be ended: each has
`c.done` (connection torn down) or a context case. -/
theorem background_waits_end :
    ∀ b ∈ backgroundWaits, selects.any (fun s => (s.file, s.fn, s.ord) == b &&
      (s.cases.contains "recv:c.done" || s.cases.contains "recv:ctx.Done()")) = true := by decide +kernel

/-- the snapshot poll is cancellable by its caller -/
theorem create_snapshot_wait_has_ctx :
    selects.any (fun s => s.fn == "client.CreateSnapshot" && s.cases.contains "recv:ctx.Done()") = true := by
  decide +kernel

/-- negative: a blocking select on no list is rejected by the predicate of `no_unlisted_blocking` -/
example : let s : Sel := ⟨"gohbase", "client.SendRPC", 0, ["recv:somechan"]⟩
    (isCallerWait s || nonBlocking s || isBackground s) = false := by decide +kernel
/-- non-vacuity: the three classes are all inhabited -/
example : (selects.filter isCallerWait).length = callerWaits.length ∧
    0 < (selects.filter nonBlocking).length ∧
    (selects.filter isBackground).length = backgroundWaits.length := by decide +kernel

/-- Allow-list for operations outside any `select`: the operation, how many times it occurs in
that function, and why it cannot block a caller. -/
structure Allowed where
  op : Bare
  count : Nat
  why : String
  deriving Repr

def allowedBare : List Allowed := [
  ⟨⟨"gohbase", "client.zkLookup", "send", "reschan"⟩, 1,
    "reschan is created with capacity 1 in zkLookup and receives exactly this one send"⟩,
  ⟨⟨"gohbase", "client.Close", "do", "c.closeOnce"⟩, 1,
    "sync.Once: the body closes channels and connections and waits for nothing (C19 close_twice_noop)"⟩,
  ⟨⟨"region", "client.QueueBatch", "send", "call.ResultChan()"⟩, 1,
    "capacity-1 result channel, each call completed at most once: C03 at_most_once"⟩,
  ⟨⟨"region", "client.fail", "do", "c.failOnce"⟩, 1,
    "sync.Once: the body closes c.done and the net.Conn and waits for nothing"⟩,
  ⟨⟨"region", "client.processRPCs", "recv", "timer.C"⟩, 1,
    "drain after a failed timer.Stop(): the timer has fired, so the value is (or is about to be) in the capacity-1 channel; writer goroutine only"⟩,
  ⟨⟨"region", "returnResult", "send", "call.ResultChan()"⟩, 1,
    "capacity-1 result channel, each call completed at most once: C03 at_most_once"⟩,
  ⟨⟨"region", "client.Dial", "do", "c.dialOnce"⟩, 1,
    "sync.Once: the body's dial and hello write are bounded by the dial context's deadline (establisher goroutine, not a caller)"⟩,
  ⟨⟨"region", "multi.returnResults", "send", "call.ResultChan()"⟩, 5,
    "capacity-1 result channel, each call completed at most once: C03 at_most_once (and the fix validating multi responses)"⟩]

def justified (b : Bare) : Bool :=
  allowedBare.any fun a => a.op == b && bareOps.count b == a.count

/-- EVERY bare send / receive / `Once.Do` of the source is on the allow-list, with exactly the
listed multiplicity (an added send in an already listed function changes the count). -/
theorem bare_ops_all_justified : ∀ b ∈ bareOps, justified b = true := by decide +kernel

/-- and the allow-list has no stale entry -/
theorem allow_list_tight : ∀ a ∈ allowedBare, bareOps.contains a.op = true := by decide +kernel

example : 0 < bareOps.length ∧ (allowedBare.map (·.count)).sum = bareOps.length := by decide
/-- negative: an unlisted bare receive is rejected -/
example : justified (Bare.mk "gohbase" "client.SendRPC" "recv" "ch") = false := by decide +kernel

/-! ## Model: what a `select` does once the context is cancelled

Go semantics: a `select` without `default` blocks until at least one case is ready and then
takes one of the ready cases (chosen at random).  `ready` tells which cases are ready; `pick`
is the scheduler's choice among them. -/

inductive SelOut where
  | took (case : String)
  | blocked
  deriving Repr, DecidableEq

def selectStep (cases : List String) (ready : String → Bool) (pick : Nat) : SelOut :=
  match cases.filter ready with
  | [] => if cases.contains "default" then .took "default" else .blocked
  | r :: rs => .took ((r :: rs)[pick % (r :: rs).length]'(Nat.mod_lt _ (Nat.succ_pos _)))

/-- A select that has the cancelled context among its cases never blocks … -/
theorem cancel_never_blocks (cases : List String) (ctxCase : String) (ready : String → Bool)
    (pick : Nat) (hin : ctxCase ∈ cases) (hc : ready ctxCase = true) :
    selectStep cases ready pick ≠ .blocked := by
  unfold selectStep
  have hm : ctxCase ∈ cases.filter ready := List.mem_filter.mpr ⟨hin, hc⟩
  split
  · rename_i h; rw [h] at hm; cases hm
  · intro h; cases h

/-- … and a cancel event alone (no other case ready) makes it take the context case at that
step, whatever the scheduler picks. -/
theorem cancel_returns (cases : List String) (ctxCase : String) (ready : String → Bool)
    (pick : Nat) (hin : ctxCase ∈ cases) (hc : ready ctxCase = true)
    (honly : ∀ c ∈ cases, c ≠ ctxCase → ready c = false) :
    selectStep cases ready pick = .took ctxCase := by
  unfold selectStep
  have hm : ctxCase ∈ cases.filter ready := List.mem_filter.mpr ⟨hin, hc⟩
  have hall : ∀ x ∈ cases.filter ready, x = ctxCase := by
    intro x hx
    have ⟨hx1, hx2⟩ := List.mem_filter.mp hx
    by_cases hxe : x = ctxCase
    · exact hxe
    · rw [honly x hx1 hxe] at hx2; cases hx2
  split
  · rename_i h; rw [h] at hm; cases hm
  · rename_i r rs h
    rw [h] at hall
    congr 1
    exact hall _ (List.getElem_mem _)

/-- the model on the real table: `sendBlocking`'s wait with only the context ready -/
example : selectStep ["recv:ctx.Done()", "recv:rpc.ResultChan()"] (· == "recv:ctx.Done()") 7
    = .took "recv:ctx.Done()" := by decide +kernel
/-- negative: without the context case the same select blocks -/
example : selectStep ["recv:rpc.ResultChan()"] (· == "recv:ctx.Done()") 0 = .blocked := by decide +kernel
/-- negative (why "a cancel event alone"): if the result is ready too, Go may take it -/
example : selectStep ["recv:ctx.Done()", "recv:rpc.ResultChan()"] (fun _ => true) 1
    = .took "recv:rpc.ResultChan()" := by decide +kernel

/-! ## The `SendRPC` loop under cancellation

One iteration of `SendRPC` is `getRegionAndClientForRPC` (waits #0 and #1, each reached only if
the region is unavailable at that point), `QueueRPC` (= the attempt; preceded by its own
non-blocking context check), `sendBlocking` #0 (always reached), and for retry-later answers
`sleepAndIncreaseBackoff` #0.  A point is a wait from `callerWaits` or the attempt itself. -/

inductive Pt where
  | wait (w : Wait)
  | attempt
  deriving Repr, DecidableEq

inductive IterOut where
  | ctxErr (afterAttempts : Nat)   -- returned the context error having made that many attempts
  | completed (attempts : Nat)     -- ran through all points (iteration ends: return or `continue`)
  | stuck
  deriving Repr, DecidableEq

/-- Runs the points of an iteration with the context cancelled and *no other event* (no result,
no availability change, no timer): each wait is the `select` of the source with only its context
case ready. -/
def runCancelled : List Pt → Nat → IterOut
  | [], n => .completed n
  | .attempt :: rest, n => runCancelled rest (n + 1)
  | .wait w :: rest, n =>
    match selects.find? w.matches with
    | none => .stuck
    | some s =>
      match selectStep s.cases (· == w.ctxCase) 0 with
      | .took c => if c == w.ctxCase then .ctxErr n else runCancelled rest n
      | .blocked => .stuck

def wGR0 : Wait := ⟨"gohbase", "client.getRegionAndClientForRPC", 0, "recv:ctx.Done()"⟩
def wGR1 : Wait := ⟨"gohbase", "client.getRegionAndClientForRPC", 1, "recv:ctx.Done()"⟩
def wQueue : Wait := ⟨"region", "client.QueueRPC", 0, "recv:rpc.Context().Done()"⟩
def wSend : Wait := ⟨"gohbase", "sendBlocking", 0, "recv:ctx.Done()"⟩
def wSleep : Wait := ⟨"gohbase", "sleepAndIncreaseBackoff", 0, "recv:ctx.Done()"⟩

/-- The shapes an iteration of `SendRPC` can have: which of the two availability waits are
reached, then the queue check, the attempt, the result wait and possibly the back-off sleep. -/
def iterationShapes : List (List Pt) :=
  [[], [.wait wGR0], [.wait wGR1], [.wait wGR0, .wait wGR1]].flatMap fun pre =>
    [pre ++ [.wait wQueue, .attempt, .wait wSend],
     pre ++ [.wait wQueue, .attempt, .wait wSend, .wait wSleep]]

def Pt.listed : Pt → Bool
  | .wait w => callerWaits.contains w
  | .attempt => true

theorem iteration_waits_are_caller_waits :
    ∀ sh ∈ iterationShapes, ∀ p ∈ sh, p.listed = true := by decide +kernel

/-- Wherever inside an iteration the cancellation happens (the points before it already
executed), the rest of the iteration returns the context error with no further attempt, unless
the next point is the attempt itself (`sendrpc_cancel_in_progress_attempt`). -/
theorem sendrpc_cancel_returns_from_any_point :
    ∀ sh ∈ iterationShapes, ∀ k ∈ List.range sh.length,
      (sh.drop k).head? ≠ some .attempt → runCancelled (sh.drop k) 0 = .ctxErr 0 := by
  decide +kernel

/-- With the context cancelled and nothing else happening, the iteration in progress returns the
context error at the first wait it reaches and makes no attempt at all after the cancellation —
in particular the loop never reaches `continue`. -/
theorem sendrpc_cancel_returns :
    ∀ sh ∈ iterationShapes, runCancelled sh 0 = .ctxErr 0 := by
  -- the case `k = 0` of the theorem above: every shape starts with a wait
  have h0 : ∀ sh ∈ iterationShapes, 0 ∈ List.range sh.length ∧ sh.head? ≠ some .attempt := by decide
  exact fun sh hsh => sendrpc_cancel_returns_from_any_point sh hsh 0 (h0 sh hsh).1 (h0 sh hsh).2

/-- If the cancellation lands between the queue check and the write (the only point followed by
the attempt) that one attempt — the one in progress — goes out, and the result wait then returns. -/
theorem sendrpc_cancel_in_progress_attempt :
    runCancelled [.attempt, .wait wSend] 0 = .ctxErr 1 ∧
    runCancelled [.attempt, .wait wSend, .wait wSleep] 0 = .ctxErr 1 := by decide +kernel

example : iterationShapes.length = 8 := by decide
/-- negative: an iteration made of an attempt with no wait behind it would complete and loop -/
example : runCancelled [.attempt] 0 = .completed 1 := by decide

/-- Regenerated from rpc.go (`findClients`, fix a0b19e4): the region of a batched call is located
under a context `rctx` derived from the batch context by `context.WithCancel(ctx)` *and* cancelled
by `context.AfterFunc(rpc.Context(), cancel)` — i.e. it ends when the batch context or the call's
own context ends. Every wait inside `getRegionAndClientForRPC` selects on the context it is given
(`caller_waits_cancellable`), so a batched call whose own context ends while its region is being
located is released. (`batch_wait_watches_call_context` covers the wait for the response.) `rctx` is
declared inside the loop over the batch: every call is located under a context of its own, so the
cancellation that ends one call's location cannot leak into the next call's. -/
theorem batch_location_watches_call_context_in_source :
    GV.Gen.Exits.findClientsLocateCtx = ["rctx"] ∧
    GV.Gen.Exits.findClientsLocateCtxPerCall = true ∧
    GV.Gen.Exits.findClientsWithCancel = ["rctx, cancel = WithCancel(ctx)"] ∧
    GV.Gen.Exits.findClientsAfterFunc = ["rpc.Context(), cancel"] := ⟨rfl, rfl, rfl, rfl⟩

/-- Regenerated from rpc.go (`SendBatch`, fixes 38f0b98 and 8ad70df): the two other places where a
batch waits — handing a group of calls to a region client whose send queue is busy
(`QueueBatch`) and the back-off sleep between rounds — wait under a context made by
`contextOfCalls` from the batch context and the calls concerned: it ends when the batch context
ends or when the own context of every one of those calls has ended (`Round.gaveUp` /
`Event.sleepLeft` in `Model/Batch.lean` for the sleep). Together with
`batch_location_watches_call_context_in_source` (region location) and
`batch_wait_watches_call_context` (the wait for the response) these are all the waits of SendBatch. -/
theorem batch_queue_and_sleep_watch_call_contexts_in_source :
    GV.Gen.Exits.sendBatchWaitContexts =
      ["QueueBatch:contextOfCalls(ctx, rpcs)", "sleepAndIncreaseBackoff:contextOfCalls(ctx, _)"] := rfl

/-- Regenerated from admin_client.go (`checkProcedureWithBackoff`, the wait behind CreateTable,
DeleteTable, EnableTable and DisableTable): the procedure-state poll and the sleep between two
polls both run under the context of the admin call itself, and the loop makes no context of its
own (a poll under a fresh context is not ended by the caller's cancellation: observed as
`cancel-ignored-admin-poll-silent-*` on a seeded change). -/
theorem procedure_polls_watch_caller_context_in_source :
    GV.Gen.Exits.procedurePollContexts = ["NewGetProcedureState:ctx", "sleepAndIncreaseBackoff:ctx"] :=
  rfl

end GV.Cancel
