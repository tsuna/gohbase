import GohbaseVerif.Lemmas.BatchWait
import GohbaseVerif.Lemmas.Backoff
import GohbaseVerif.Lemmas.Outcome
/-!
One pass of the retry loop (`Pass`: the wait phase slot by slot; `Book`: the bookkeeping of `allOK` a pass
keeps; `backOff`: what follows the wait, read case by case through `BackOff`; `loop_cons`: the pass as an
equation) and the runs of the loop that return, as an inductive relation `Run` whose recursor is the
induction principle for `loop`: an invariant of every write (`RoundInv`, `Run.inv`), `Run.allOK_iff`.
-/
namespace GV.Batch

def queueEvents (r : Nat) (rd : Round) (batch : List Nat) : List Event :=
  (groups rd batch).map fun g => Event.queue r g.1 g.2

def acc0 (st : St) : Acc := ⟨st.res, st.allOK, [], false, st.unretry, false⟩

@[simp] theorem afterLocate_res (b0 rd batch st) :
    (afterLocate b0 rd batch st).res = locateErrors b0 rd batch st.res := rfl
@[simp] theorem afterLocate_allOK (b0 rd batch st) :
    (afterLocate b0 rd batch st).allOK = (st.allOK && !batch.any (ownGone rd)) := rfl
@[simp] theorem afterLocate_unretry (b0 rd batch st) :
    (afterLocate b0 rd batch st).unretry = (st.unretry || batch.any (ownGone rd)) := rfl
@[simp] theorem afterLocate_backoff (b0 rd batch st) : (afterLocate b0 rd batch st).backoff = st.backoff := rfl
@[simp] theorem afterLocate_immediate (b0 rd batch st) :
    (afterLocate b0 rd batch st).immediate = st.immediate := rfl
@[simp] theorem afterLocate_events (b0 rd batch st) : (afterLocate b0 rd batch st).events = st.events := rfl

/-- the calls of a pass whose answer is retried, in wait order: the batch of the next pass -/
def retried (rd : Round) (batch : List Nat) : List Nat :=
  ((groups rd (liveCalls rd batch)).flatMap (·.2)).filter fun c => isRetry (rd.ans c)

theorem mem_retried {rd : Round} {batch : List Nat} {c : Nat} :
    c ∈ retried rd batch ↔ c ∈ liveCalls rd batch ∧ isRetry (rd.ans c) = true := by
  rw [retried, List.mem_filter, mem_groups_flat]

/-- the slot of call `d` after a pass, from its slot before: the error region location found for it, then
its answer as handled, then as swept -/
def passSlot (rd : Round) (batch pre post : List Nat) (d : Nat) (s : Slot) : Slot :=
  let s := if d ∈ batch then located rd d s else s
  let s := if d ∈ pre then handled d (rd.ans d) s else s
  if d ∈ post then swept (rd.ans d) s else s

theorem passSlot_nil (rd : Round) (batch : List Nat) (d : Nat) (s : Slot) :
    passSlot rd batch [] [] d s = if d ∈ batch then located rd d s else s := rfl

/-- A pass in which `findClients` returns `ok == true`, from `batch` and `st` at the top of the loop to
the variables `a` after the wait phase. The calls waited for, in wait order, are `pre ++ post`: those
handled, then those swept after a select saw the batch context done. -/
structure Pass (b0 : List Nat) (rd : Round) (batch : List Nat) (st : St) (a : Acc) (pre post : List Nat) :
    Prop where
  split : (groups rd (liveCalls rd batch)).flatMap (·.2) = pre ++ post
  locOk : ∀ c ∈ liveCalls rd batch, locOk rd c = true
  answered : ∀ c ∈ pre, rd.ans c ≠ .silent
  uncut : ctxDoneAfterWait rd.cancel = false → post = [] ∧ a.interrupted = false
  length : a.res.length = b0.length
  slot : ∀ d ∈ b0, getSlot b0 a.res d = passSlot rd batch pre post d (getSlot b0 st.res d)
  retries : a.retries = pre.filter fun c => isRetry (rd.ans c)
  needBackoff : a.needBackoff = pre.any fun c => isBackoff (rd.ans c)
  unretry : a.unretry = (st.unretry || batch.any (ownGone rd) || pre.any fun c => isUnretry (rd.ans c))
  allOK : a.allOK = (st.allOK && !batch.any (ownGone rd) && pre.all (fun c => (rd.ans c).isOk) &&
    post.all fun c => (rd.ans c).isOk)

/-- The bookkeeping at the top of the retry loop: `allOK` is the negation of
`unretryableErrorSeen`, which is set exactly when a call that is not sent again has an error. -/
structure Book (b0 batch : List Nat) (st : St) : Prop where
  allOK : st.allOK = !st.unretry
  unretry : st.unretry = true ↔ ∃ c ∈ b0, c ∉ batch ∧ (getSlot b0 st.res c).err ≠ none

namespace Pass
variable {b0 : List Nat} {rd : Round} {batch : List Nat} {st : St} {a : Acc} {pre post : List Nat}

theorem mem_pre_or_post (p : Pass b0 rd batch st a pre post) {c : Nat} :
    c ∈ pre ∨ c ∈ post ↔ c ∈ liveCalls rd batch := by
  rw [← List.mem_append, ← p.split]; exact mem_groups_flat

theorem pre_sub (p : Pass b0 rd batch st a pre post) {c : Nat} (h : c ∈ pre) : c ∈ batch :=
  liveCalls_sub (p.mem_pre_or_post.mp (Or.inl h))

theorem post_sub (p : Pass b0 rd batch st a pre post) {c : Nat} (h : c ∈ post) : c ∈ batch :=
  liveCalls_sub (p.mem_pre_or_post.mp (Or.inr h))

theorem mem_retries (p : Pass b0 rd batch st a pre post) {c : Nat} :
    c ∈ a.retries ↔ c ∈ pre ∧ isRetry (rd.ans c) = true := by
  rw [p.retries, List.mem_filter]

theorem retries_live (p : Pass b0 rd batch st a pre post) {c : Nat} (h : c ∈ a.retries) :
    c ∈ liveCalls rd batch :=
  p.mem_pre_or_post.mp (Or.inl (p.mem_retries.mp h).1)

theorem not_retried_of_ownGone (p : Pass b0 rd batch st a pre post) {c : Nat} (hg : ownGone rd c = true) :
    c ∉ a.retries :=
  fun h => not_live_of_ownGone hg (p.retries_live h)

theorem retries_sub (p : Pass b0 rd batch st a pre post) {c : Nat} (h : c ∈ a.retries) : c ∈ batch :=
  liveCalls_sub (p.retries_live h)

theorem mem_pre_uncut (p : Pass b0 rd batch st a pre []) {c : Nat} : c ∈ pre ↔ c ∈ liveCalls rd batch := by
  rw [← p.mem_pre_or_post, or_iff_left List.not_mem_nil]

theorem retries_uncut (p : Pass b0 rd batch st a pre []) : a.retries = retried rd batch := by
  rw [p.retries, retried, p.split, List.append_nil]

theorem frame (p : Pass b0 rd batch st a pre post) {d : Nat} (hd : d ∈ b0) (hn : d ∉ batch) :
    getSlot b0 a.res d = getSlot b0 st.res d := by
  rw [p.slot d hd, passSlot, if_neg hn, if_neg (fun h => hn (p.pre_sub h)), if_neg (fun h => hn (p.post_sub h))]

theorem slot_live (p : Pass b0 rd batch st a pre post) {c : Nat} (hc : c ∈ b0) (hl : c ∈ liveCalls rd batch) :
    ∃ s, getSlot b0 a.res c = swept (rd.ans c) s ∨
      (rd.ans c ≠ .silent ∧ getSlot b0 a.res c = handled c (rd.ans c) s) := by
  rw [p.slot c hc, passSlot]
  by_cases hpost : c ∈ post
  · rw [if_pos hpost]; exact ⟨_, Or.inl rfl⟩
  · have hpre : c ∈ pre := (p.mem_pre_or_post.mpr hl).resolve_right hpost
    rw [if_neg hpost, if_pos hpre]; exact ⟨_, Or.inr ⟨p.answered c hpre, rfl⟩⟩

theorem err_none_live (p : Pass b0 rd batch st a pre post) {c : Nat} (hc : c ∈ b0)
    (hl : c ∈ liveCalls rd batch) : (getSlot b0 a.res c).err = none ↔ (rd.ans c).isOk = true := by
  obtain ⟨s, h | ⟨hs, h⟩⟩ := p.slot_live hc hl
  · rw [h]; exact swept_err_none ..
  · rw [h]; exact handled_err_none hs _

theorem slot_ok (p : Pass b0 rd batch st a pre post) {c m : Nat} (hc : c ∈ b0) (hl : c ∈ liveCalls rd batch)
    (hm : rd.ans c = .ok m) : getSlot b0 a.res c = ⟨some m, none⟩ := by
  obtain ⟨s, h | ⟨_, h⟩⟩ := p.slot_live hc hl <;> rw [h, hm] <;> rfl

theorem slot_fail (p : Pass b0 rd batch st a pre post) {c : Nat} {cls : Cls} {t : Nat} (hc : c ∈ b0)
    (hl : c ∈ liveCalls rd batch) (hm : rd.ans c = .fail cls t) :
    getSlot b0 a.res c = ⟨none, some (.ans cls t)⟩ := by
  obtain ⟨s, h | ⟨_, h⟩⟩ := p.slot_live hc hl <;> rw [h, hm] <;> rfl

theorem slot_ownGone (p : Pass b0 rd batch st a pre post) {c : Nat} (hc : c ∈ b0) (hb : c ∈ batch)
    (hg : ownGone rd c = true) : getSlot b0 a.res c = ⟨none, some (.ownCtx c)⟩ := by
  have hnl : c ∉ liveCalls rd batch := not_live_of_ownGone hg
  rw [p.slot c hc, passSlot, if_pos hb, if_neg (fun h => hnl (p.mem_pre_or_post.mp (Or.inl h))),
    if_neg (fun h => hnl (p.mem_pre_or_post.mp (Or.inr h))), located_error (ownGone_iff.mp hg)]

theorem allOK_iff (p : Pass b0 rd batch st a pre post) (hb : ∀ c ∈ batch, c ∈ b0) (hk : Book b0 batch st) :
    a.allOK = true ↔ ∀ c ∈ b0, (getSlot b0 a.res c).err = none := by
  simp only [p.allOK, Bool.and_eq_true, Bool.not_eq_true', List.any_eq_false, List.all_eq_true]
  -- a call outside `batch` keeps its slot, free of error exactly when the flag at the top says so (`Book`);
  -- a call of `batch` is failed alone or is live, and then its slot has no error exactly when its answer is a success
  constructor
  · rintro ⟨⟨⟨hst, hgone⟩, hpre⟩, hpost⟩ c hc
    by_cases hcb : c ∈ batch
    · have hlive : c ∈ liveCalls rd batch := mem_liveCalls.mpr ⟨hcb, by simpa using hgone c hcb⟩
      exact (p.err_none_live hc hlive).mpr ((p.mem_pre_or_post.mpr hlive).elim (hpre c) (hpost c))
    · rw [p.frame hc hcb]
      apply Classical.byContradiction
      intro he
      have := hk.unretry.mpr ⟨c, hc, hcb, he⟩
      rw [hk.allOK, this] at hst; cases hst
  · intro hnil
    refine ⟨⟨⟨?_, fun c hcb hg => ?_⟩, fun c hc => ?_⟩, fun c hc => ?_⟩
    · rw [hk.allOK]
      cases hu : st.unretry
      · rfl
      · obtain ⟨c, hc, hcb, he⟩ := hk.unretry.mp hu
        exact absurd (p.frame hc hcb ▸ hnil c hc) he
    · have := hnil c (hb c hcb)
      rw [p.slot_ownGone (hb c hcb) hcb (by simpa using hg)] at this; cases this
    · exact (p.err_none_live (hb c (p.pre_sub hc)) (p.mem_pre_or_post.mp (Or.inl hc))).mp (hnil c (hb c (p.pre_sub hc)))
    · exact (p.err_none_live (hb c (p.post_sub hc)) (p.mem_pre_or_post.mp (Or.inr hc))).mp (hnil c (hb c (p.post_sub hc)))

theorem book_next (p : Pass b0 rd batch st a pre []) (hb : ∀ c ∈ batch, c ∈ b0) (hk : Book b0 batch st)
    (bo : Int) (imm : Nat) (ev : List Event) : Book b0 a.retries ⟨a.res, !a.unretry, a.unretry, bo, imm, ev⟩ := by
  refine ⟨rfl, ?_⟩
  -- the new flag is: old flag, or a call failed alone by its own context, or a handled answer that is final.
  -- Each of the three names a call with an error that is not retried, and every such call is one of them
  simp only [p.unretry, Bool.or_eq_true, List.any_eq_true]
  constructor
  · rintro ((hu | ⟨c, hcb, hg⟩) | ⟨c, hc, hun⟩)
    · obtain ⟨c, hc, hcb, he⟩ := hk.unretry.mp hu
      exact ⟨c, hc, fun h => hcb (p.retries_sub h), by rwa [p.frame hc hcb]⟩
    · exact ⟨c, hb c hcb, p.not_retried_of_ownGone hg, by rw [p.slot_ownGone (hb c hcb) hcb hg]; simp⟩
    · have hcb := hb c (p.pre_sub hc)
      rcases ans_trichotomy (p.answered c hc) with ⟨_, _, hnu⟩ | ⟨_, _, hnu⟩ | ⟨hnok, hnr, _⟩
      · rw [hnu] at hun; cases hun
      · rw [hnu] at hun; cases hun
      · refine ⟨c, hcb, fun hr => ?_, fun he => ?_⟩
        · rw [(p.mem_retries.mp hr).2] at hnr; cases hnr
        · rw [(p.err_none_live hcb (p.mem_pre_uncut.mp hc)).mp he] at hnok; cases hnok
  · rintro ⟨c, hc, hnr, he⟩
    by_cases hcb : c ∈ batch
    · cases hg : ownGone rd c
      · have hlive : c ∈ liveCalls rd batch := mem_liveCalls.mpr ⟨hcb, hg⟩
        have hpre : c ∈ pre := p.mem_pre_uncut.mpr hlive
        refine Or.inr ⟨c, hpre, ?_⟩
        rcases ans_trichotomy (p.answered c hpre) with ⟨hok, _, _⟩ | ⟨_, hre, _⟩ | ⟨_, _, hun⟩
        · exact absurd ((p.err_none_live hc hlive).mpr hok) he
        · exact absurd (p.mem_retries.mpr ⟨hpre, hre⟩) hnr
        · exact hun
      · exact Or.inl (Or.inr ⟨c, hcb, hg⟩)
    · exact Or.inl (Or.inl (hk.unretry.mpr ⟨c, hc, hcb, by rwa [← p.frame hc hcb]⟩))

end Pass

theorem pass_of_waitAll {b0 : List Nat} {rd : Round} {batch : List Nat} {st : St} {a : Acc}
    (hb : ∀ c ∈ batch, c ∈ b0) (hl : st.res.length = b0.length)
    (hany : batch.any (fun c => !locOk rd c && !ownGone rd c) = false)
    (h : waitAll b0 rd.ans (cancelPos rd.cancel) (groups rd (liveCalls rd batch)) 0
      (acc0 (afterLocate b0 rd batch st)) = .ok a) :
    ∃ pre post, Pass b0 rd batch st a pre post := by
  obtain ⟨hno, pre, post, f⟩ := waitAll_flat h
  have hsub : ∀ c, c ∈ pre ∨ c ∈ post → c ∈ b0 := fun c hc =>
    hb c (liveCalls_sub (mem_groups_flat.mp (f.split ▸ List.mem_append.mpr hc)))
  have hres := f.res
  simp only [acc0, afterLocate_res, locateErrors_eq_writeAll] at hres
  refine ⟨pre, post,
    { split := f.split, locOk := fun c hc => locOk_of_live hany hc, answered := f.answered,
      uncut := fun hnd => ?_, length := by simp [hres, hl], slot := fun d hd => ?_,
      retries := by simpa [acc0] using f.retries, needBackoff := by simpa [acc0] using f.needBackoff,
      unretry := f.unretry, allOK := f.allOK }⟩
  · have hint : a.interrupted = false := hno (cancelPos_none_of_not_done hnd) rfl
    exact ⟨f.leave hint, hint⟩
  · rw [hres, getSlot_writeAll (fun _ => swept_idem _) (fun c hc => hsub c (Or.inr hc)) (by simp [hl]) hd,
      getSlot_writeAll (fun c => handled_idem c _) (fun c hc => hsub c (Or.inl hc)) (by simp [hl]) hd,
      getSlot_writeAll (located_idem rd) hb hl hd]
    rfl

/-- `if needBackoff { backoff, err = sleepAndIncreaseBackoff(sctx, backoff) }` with `retries` to retry:
the events of the back-off sleep and, unless the sleep is cut by the batch context or left because every
call to retry has given up, the back-off of the next pass. -/
def backOff (rd : Round) (need : Bool) (b : Int) (retries : List Nat) : List Event × Option Int :=
  if need then
    if b = 0 then ([], some (Gen.Backoff.beforeWait b))
    else if rd.cancel = .sleep then ([.sleepCut (Gen.Backoff.sleepFor b)], none)
    else if retries.all rd.gaveUp then ([.sleepLeft (Gen.Backoff.sleepFor b)], none)
    else ([.sleep (Gen.Backoff.sleepFor b)], some (Gen.Backoff.nextBackoff b))
  else ([], some b)

inductive BackOff (rd : Round) (need : Bool) (b : Int) (retries : List Nat) : List Event × Option Int → Prop
  | now (h : need = false) : BackOff rd need b retries ([], some b)
  | zero (h : need = true) (h0 : b = 0) : BackOff rd need b retries ([], some (Gen.Backoff.beforeWait b))
  | cut (h : need = true) (h0 : b ≠ 0) (hs : rd.cancel = .sleep) :
      BackOff rd need b retries ([.sleepCut (Gen.Backoff.sleepFor b)], none)
  | left (h : need = true) (h0 : b ≠ 0) (hs : rd.cancel ≠ .sleep) (hg : retries.all rd.gaveUp = true) :
      BackOff rd need b retries ([.sleepLeft (Gen.Backoff.sleepFor b)], none)
  | slept (h : need = true) (h0 : b ≠ 0) (hs : rd.cancel ≠ .sleep) (hg : retries.all rd.gaveUp = false) :
      BackOff rd need b retries ([.sleep (Gen.Backoff.sleepFor b)], some (Gen.Backoff.nextBackoff b))

theorem backOff_spec (rd : Round) (need : Bool) (b : Int) (retries : List Nat) :
    BackOff rd need b retries (backOff rd need b retries) := by
  unfold backOff
  by_cases h : need = true
  · rw [if_pos h]
    by_cases h0 : b = 0
    · rw [if_pos h0]; exact .zero h h0
    · rw [if_neg h0]
      by_cases hs : rd.cancel = .sleep
      · rw [if_pos hs]; exact .cut h h0 hs
      · rw [if_neg hs]
        by_cases hg : retries.all rd.gaveUp = true
        · rw [if_pos hg]; exact .left h h0 hs hg
        · rw [if_neg hg]; exact .slept h h0 hs (Bool.eq_false_iff.mpr hg)
  · rw [if_neg h]; exact .now (Bool.eq_false_iff.mpr h)

namespace BackOff
variable {rd : Round} {need : Bool} {b : Int} {retries : List Nat} {tail : List Event} {nx : Option Int} {bo : Int}

theorem noQueue (h : BackOff rd need b retries (tail, nx)) (r k : Nat) (cs : List Nat) :
    Event.queue r k cs ∉ tail := by
  cases h with
  | now | zero => exact List.not_mem_nil
  | cut | left | slept => exact fun h => nomatch List.mem_singleton.mp h

theorem pos (h : BackOff rd need b retries (tail, some bo)) (hp : 0 < b) : 0 < bo := by
  cases h with
  | now => exact hp
  | zero _ h0 => exact absurd h0 (Int.ne_of_gt hp)
  | slept => exact Gen.Backoff.nextBackoff_pos hp

theorem waiter (h : BackOff rd true b retries (tail, some bo)) (hb : b ≠ 0) : retries.all rd.gaveUp = false := by
  cases h with
  | now h => cases h
  | zero _ h0 => exact absurd h0 hb
  | slept _ _ _ hg => exact hg

end BackOff

theorem backOff_left {rd : Round} {b : Int} {retries : List Nat} (hb : b ≠ 0) (hs : rd.cancel ≠ .sleep)
    (hg : retries.all rd.gaveUp = true) :
    backOff rd true b retries = ([.sleepLeft (Gen.Backoff.sleepFor b)], none) := by
  simp only [backOff, hb, hs, hg, if_true, if_false]

theorem loop_cons (b0 : List Nat) (rd : Round) (rest : List Round) (r : Nat) (batch : List Nat) (st : St) :
    loop b0 (rd :: rest) r batch st =
      if batch.any (fun c => !locOk rd c && !ownGone rd c) then
        .ok ⟨locateErrors b0 rd batch st.res, false, st.events, false⟩
      else
        (waitAll b0 rd.ans (cancelPos rd.cancel) (groups rd (liveCalls rd batch)) 0
          (acc0 (afterLocate b0 rd batch st))).bind fun a =>
        let ev := st.events ++ queueEvents r rd (liveCalls rd batch)
        if a.retries.isEmpty || ctxDoneAfterWait rd.cancel then .ok ⟨a.res, a.allOK, ev, a.interrupted⟩
        else match backOff rd (a.needBackoff || decide (st.immediate > 1)) st.backoff a.retries with
          | (tail, none) => .ok ⟨a.res, a.allOK, ev ++ tail, a.interrupted⟩
          | (tail, some bo) =>
            loop b0 rest (r + 1) a.retries
              ⟨a.res, !a.unretry, a.unretry, bo, if a.needBackoff then st.immediate else st.immediate + 1,
               ev ++ tail⟩ := by
  rw [loop]
  by_cases h1 : (batch.any fun c => !locOk rd c && !ownGone rd c) = true
  · rw [if_pos h1, if_pos h1]
  · rw [if_neg h1, if_neg h1]
    dsimp only [acc0]
    generalize waitAll b0 rd.ans (cancelPos rd.cancel) (groups rd (liveCalls rd batch)) 0 _ = w
    cases w with
    | err e => rfl
    | fault f => rfl
    | ok a =>
      dsimp only [Outcome.bind]
      by_cases h2 : (a.retries.isEmpty || ctxDoneAfterWait rd.cancel) = true
      · rw [if_pos h2, if_pos h2]; rfl
      · rw [if_neg h2, if_neg h2]
        show (if (a.needBackoff || decide (st.immediate > 1)) = true then if st.backoff = 0 then _ else _ else _) = _
        -- the model's five-way `if`, by the branch `backOff` takes (`split` costs several times as much)
        generalize (a.needBackoff || decide (st.immediate > 1)) = need
        have v := backOff_spec rd need st.backoff a.retries
        generalize backOff rd need st.backoff a.retries = p at v
        cases v with
        | now h => rw [if_neg (by rw [h]; exact Bool.false_ne_true)]; simp only [List.append_nil]; rfl
        | zero h h0 => rw [if_pos h, if_pos h0]; simp only [List.append_nil]; rfl
        | cut h h0 hs => rw [if_pos h, if_neg h0, if_pos hs]; rfl
        | left h h0 hs hg => rw [if_pos h, if_neg h0, if_neg hs, if_pos hg]; rfl
        | slept h h0 hs hg => rw [if_pos h, if_neg h0, if_neg hs, if_neg (by rw [hg]; exact Bool.false_ne_true)]; rfl

theorem afterLocate_live {b0 : List Nat} {rd : Round} {batch : List Nat} {st : St}
    (hany : batch.any (fun c => !locOk rd c && !ownGone rd c) = false) :
    afterLocate b0 rd (liveCalls rd batch) st = st := by
  have h1 : locateErrors b0 rd (liveCalls rd batch) st.res = st.res :=
    locateErrors_id (fun c hc => locOk_of_live hany hc)
  simp only [afterLocate, h1, any_ownGone_live]
  cases st; simp

/-- the calls failed alone can be dropped from the pass (C07 `own_ctx_others_unaffected`) -/
theorem loop_skip_ownGone {b0 : List Nat} {rd : Round} {rest : List Round} {r : Nat} {batch : List Nat}
    {st : St} (hany : batch.any (fun c => !locOk rd c && !ownGone rd c) = false) :
    loop b0 (rd :: rest) r batch st =
      loop b0 (rd :: rest) r (liveCalls rd batch) (afterLocate b0 rd batch st) := by
  have hlive : (liveCalls rd batch).any (fun c => !locOk rd c && !ownGone rd c) = false :=
    List.any_eq_false.mpr fun c hc => List.any_eq_false.mp hany c (liveCalls_sub hc)
  rw [loop_cons, loop_cons, hany, hlive, liveCalls_idem, afterLocate_live hany]
  rfl

/-- The runs of the retry loop that return: from `batch` and `st` at the top of pass `r`, with the
scripts `rounds` for this pass and the following ones, `SendBatch` returns `R`. -/
inductive Run (b0 : List Nat) : List Round → Nat → List Nat → St → Result → Prop
  /-- `findClients` returns `ok == false`: a pass that only copies the errors of region location -/
  | fail {rd rest r batch st res}
      (hany : batch.any (fun c => !locOk rd c && !ownGone rd c) = true) (hl : res.length = b0.length)
      (hslot : ∀ d ∈ b0, getSlot b0 res d = passSlot rd batch [] [] d (getSlot b0 st.res d)) :
      Run b0 (rd :: rest) r batch st ⟨res, false, st.events, false⟩
  /-- last pass: nothing to retry, batch context done, or the back-off sleep does not complete -/
  | stop {rd rest r batch st a pre post tail}
      (p : Pass b0 rd batch st a pre post) (htail : ∀ r' k cs, Event.queue r' k cs ∉ tail) :
      Run b0 (rd :: rest) r batch st
        ⟨a.res, a.allOK, st.events ++ queueEvents r rd (liveCalls rd batch) ++ tail, a.interrupted⟩
  /-- a pass that is followed by another one: no select saw the batch context done. The counter of
  immediate retries handed to the next pass (`imm`) is left open: it only decides whether a pass without a
  `RetryableError` backs off, and nothing proved of a run asks that -/
  | next {rd rest r batch st a pre tail bo imm R}
      (p : Pass b0 rd batch st a pre [])
      (hbo : BackOff rd (a.needBackoff || decide (st.immediate > 1)) st.backoff a.retries (tail, some bo))
      (hrec : Run b0 rest (r + 1) a.retries
        ⟨a.res, !a.unretry, a.unretry, bo, imm, st.events ++ queueEvents r rd (liveCalls rd batch) ++ tail⟩ R) :
      Run b0 (rd :: rest) r batch st R

theorem run_of_loop {b0 : List Nat} {rounds : List Round} {r : Nat} {batch : List Nat} {st : St} {R : Result}
    (hb : ∀ c ∈ batch, c ∈ b0) (hl : st.res.length = b0.length) (h : loop b0 rounds r batch st = .ok R) :
    Run b0 rounds r batch st R := by
  induction rounds generalizing r batch st with
  | nil => cases h
  | cons rd rest ih =>
    rw [loop_cons] at h
    by_cases hany : batch.any (fun c => !locOk rd c && !ownGone rd c) = true
    · rw [if_pos hany] at h
      cases h
      rw [locateErrors_eq_writeAll]
      exact .fail hany (by rw [length_writeAll, hl]) fun d hd => getSlot_writeAll (located_idem rd) hb hl hd
    · rw [if_neg hany] at h
      have hany := Bool.eq_false_iff.mpr hany
      obtain ⟨a, hw, h⟩ := Outcome.bind_eq_ok h
      obtain ⟨pre, post, p⟩ := pass_of_waitAll hb hl hany hw
      by_cases hgo : (a.retries.isEmpty || ctxDoneAfterWait rd.cancel) = true
      · rw [if_pos hgo] at h
        cases h
        have := Run.stop (r := r) (rest := rest) (tail := []) p (fun _ _ _ h => nomatch h)
        rwa [List.append_nil] at this
      · rw [if_neg hgo] at h
        have hnd : ctxDoneAfterWait rd.cancel = false :=
          (Bool.or_eq_false_iff.mp (Bool.eq_false_iff.mpr hgo)).2
        have v := backOff_spec rd (a.needBackoff || decide (st.immediate > 1)) st.backoff a.retries
        generalize backOff rd _ st.backoff a.retries = o at h v
        obtain ⟨tail, _ | bo⟩ := o
        · cases h
          exact .stop p v.noQueue
        · obtain ⟨hp, _⟩ := p.uncut hnd
          subst hp
          exact .next p v (ih (fun c hc => hb c (p.retries_sub hc)) p.length h)

/-- `P` is kept by every write a round can make to the slot of a call `c`: its response, the error it was
answered, the error of its own context or of the batch context over what is there, the error region
location returned for it. -/
structure RoundInv (P : Nat → Slot → Prop) (rd : Round) : Prop where
  ok : ∀ c m, rd.ans c = .ok m → P c ⟨some m, none⟩
  fail : ∀ c cls t, rd.ans c = .fail cls t → P c ⟨none, some (.ans cls t)⟩
  own : ∀ c s, P c s → P c { s with err := some (.ownCtx c) }
  ctx : ∀ c s, P c s → P c { s with err := some .batchCtx }
  loc : ∀ c e, rd.locate c = .error e → P c ⟨none, some e⟩

theorem RoundInv.passSlot {P : Nat → Slot → Prop} {rd : Round} (hr : RoundInv P rd)
    (batch pre post : List Nat) {d : Nat} {s : Slot} (h : P d s) : P d (passSlot rd batch pre post d s) := by
  have h1 : ∀ s, P d s → P d (located rd d s) := fun s h => by
    cases hl : rd.locate d with
    | error e => rw [located_error hl]; exact hr.loc d e hl
    | ok k => rwa [located_ok hl]
  have h2 : ∀ s, P d s → P d (handled d (rd.ans d) s) := fun s h => by
    cases ha : rd.ans d with
    | ok m => exact hr.ok d m ha
    | fail cls t => exact hr.fail d cls t ha
    | ownDone => exact hr.own d s h
    | silent => exact h
  have h3 : ∀ s, P d s → P d (swept (rd.ans d) s) := fun s h => by
    cases ha : rd.ans d with
    | ok m => exact hr.ok d m ha
    | fail cls t => exact hr.fail d cls t ha
    | ownDone => exact hr.ctx d s h
    | silent => exact hr.ctx d s h
  have step : ∀ {p : Prop} [Decidable p] {f : Slot → Slot} {s : Slot}, (∀ s, P d s → P d (f s)) → P d s →
      P d (if p then f s else s) := fun hf hs => by
    split
    · exact hf _ hs
    · exact hs
  exact step h3 (step h2 (step h1 h))

namespace Run
variable {b0 : List Nat} {rounds : List Round} {r : Nat} {batch : List Nat} {st : St} {R : Result}

theorem length (h : Run b0 rounds r batch st R) : R.res.length = b0.length := by
  induction h with
  | fail _ hl => exact hl
  | stop p => exact p.length
  | next _ _ _ ih => exact ih

theorem frame (h : Run b0 rounds r batch st R) {d : Nat} (hd : d ∈ b0) (hn : d ∉ batch) :
    getSlot b0 R.res d = getSlot b0 st.res d := by
  induction h with
  | fail _ _ hslot => rw [hslot d hd, passSlot_nil, if_neg hn]
  | stop p => exact p.frame hd hn
  | next p _ _ ih => rw [ih (fun hc => hn (p.retries_sub hc))]; exact p.frame hd hn

theorem inv {P : Nat → Slot → Prop} (h : Run b0 rounds r batch st R) (hr : ∀ rd ∈ rounds, RoundInv P rd)
    {d : Nat} (hd : d ∈ b0) (hs : P d (getSlot b0 st.res d)) : P d (getSlot b0 R.res d) := by
  induction h with
  | fail _ _ hslot => rw [hslot d hd]; exact (hr _ (List.mem_cons_self ..)).passSlot _ _ _ hs
  | stop p => rw [p.slot d hd]; exact (hr _ (List.mem_cons_self ..)).passSlot _ _ _ hs
  | next p _ _ ih =>
    refine ih (fun x hx => hr x (List.mem_cons_of_mem _ hx)) ?_
    rw [p.slot d hd]; exact (hr _ (List.mem_cons_self ..)).passSlot _ _ _ hs

theorem slot_ownGone {rd : Round} {rest : List Round} (h : Run b0 (rd :: rest) r batch st R) {c : Nat}
    (hc : c ∈ b0) (hb : c ∈ batch) (hg : ownGone rd c = true) :
    getSlot b0 R.res c = ⟨none, some (.ownCtx c)⟩ := by
  cases h with
  | fail _ _ hslot => rw [hslot c hc, passSlot_nil, if_pos hb, located_error (ownGone_iff.mp hg)]
  | stop p => exact p.slot_ownGone hc hb hg
  | next p _ hrec =>
    rw [hrec.frame hc (p.not_retried_of_ownGone hg)]
    exact p.slot_ownGone hc hb hg

theorem allOK_iff (h : Run b0 rounds r batch st R) (hb : ∀ c ∈ batch, c ∈ b0) (hk : Book b0 batch st) :
    R.allOK = true ↔ ∀ c ∈ b0, (getSlot b0 R.res c).err = none := by
  induction h with
  | @fail rd _ _ batch _ _ hany _ hslot =>
    refine ⟨fun h => Bool.noConfusion h, fun hall => ?_⟩
    -- some call could not be located: its slot carries that error
    obtain ⟨c, hc, hloc⟩ := List.any_eq_true.mp hany
    obtain ⟨e, he⟩ := locate_of_not_locOk (by simpa using (Bool.and_eq_true_iff.mp hloc).1)
    have := hall c (hb c hc)
    rw [hslot c (hb c hc), passSlot_nil, if_pos hc, located_error he] at this
    cases this
  | stop p => exact p.allOK_iff hb hk
  | next p _ _ ih => exact ih (fun c hc => hb c (p.retries_sub hc)) (p.book_next hb hk ..)

end Run

end GV.Batch
