import GohbaseVerif.Lemmas.Compress
/-!
# C11 (compression part) — no byte string in the position of a compressed cellblock stream can
make `decompressCellblocks` panic, read out of bounds or loop forever

In `Model/Compress.lean` every slice expression (`b[:n]`, `b[n:]`) and `binary.BigEndian.Uint32`
is `Outcome.fault` when out of range, so `decompress_no_fault` is a statement about the guards in
`readN`.  "Cannot loop forever": the two Go loops are defined by well-founded recursion on the
length of the unread input (accepted by Lean's termination checker without fuel); the two
`…_iteration_consumes` theorems state the decrease explicitly: one inner iteration consumes
`4 + compressedChunkLen` bytes (≥ 4, also when the chunk is empty and decodes to nothing), one
outer iteration at least 4.

Not modelled: `slices.Grow(out, hint)` (the declared block length, capped at 64 bytes per byte of
input left) and the codec's own allocation of a wire-declared size (up to 4 GiB; resource
exhaustion, DESIGN §4); `int(compressedChunkLen)` is taken as non-negative (64-bit `int`).
-/
namespace GV.Compress
open GV

/-- For *all* byte strings and *all* codecs (any total `decode`): `ok` or `err`, never a panic. -/
theorem decompress_no_fault (c : Codec) (b : Bytes) : (decompressCellblocks c b).isFault = false :=
  blockLoop_no_fault c b []

theorem decompress_ok_or_err (c : Codec) (b : Bytes) :
    (∃ d, decompressCellblocks c b = .ok d) ∨ (∃ e, decompressCellblocks c b = .err e) := by
  have := decompress_no_fault c b
  cases h : decompressCellblocks c b with
  | ok d => exact .inl ⟨d, rfl⟩
  | err e => exact .inr ⟨e, rfl⟩
  | fault w => rw [h] at this; cases this

/-- `readN` never slices out of range, whatever length the wire declares. -/
theorem readN_no_fault (b : Bytes) (n : Nat) : (readN b n).isFault = false := by
  by_cases h : n ≤ b.length
  · rw [readN_of_le h]; rfl
  · rw [readN_of_lt (by omega)]; rfl

theorem readUint32_no_fault (b : Bytes) : (readUint32 b).isFault = false := by
  by_cases h : 4 ≤ b.length
  · rw [readUint32_of_le h]; rfl
  · rw [readUint32_of_lt (by omega)]; rfl

/-- One iteration of the inner loop consumes the 4-byte length and the chunk: the remainder is
strictly shorter even for `compressedChunkLen = 0` with a chunk that decodes to 0 bytes. -/
theorem chunk_iteration_consumes {b b1 b2 chunk : Bytes} {cl : Nat}
    (h1 : readUint32 b = .ok (cl, b1)) (h2 : readN b1 cl = .ok (chunk, b2)) :
    b2.length + 4 + cl = b.length := by
  obtain ⟨_, rfl⟩ := readUint32_ok_append h1
  obtain ⟨hle, _, rfl⟩ := readN_ok h2
  rw [List.length_append, length_toBE, List.length_drop]
  omega

theorem block_iteration_consumes (c : Codec) {b b1 b2 out out' : Bytes} {L sf : Nat}
    (h1 : readUint32 b = .ok (L, b1)) (h2 : chunkLoop c L 0 b1 out = .ok (sf, b2, out')) :
    b2.length + 4 ≤ b.length := by
  obtain ⟨_, rfl⟩ := readUint32_ok_append h1
  have l : b2.length ≤ b1.length := chunkLoop_rest_le _ _ _ _ _ h2
  rw [List.length_append, length_toBE]
  omega

/-! Non-vacuity: garbage. -/
example : ∃ e, decompressCellblocks (idCodec 4) [0xff] = .err e := by
  refine ⟨"block-len", ?_⟩
  exact blockLoop_short (by decide) (by decide) []

end GV.Compress
