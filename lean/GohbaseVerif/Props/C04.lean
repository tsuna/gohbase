import GohbaseVerif.Lemmas.ClientSeq
import GohbaseVerif.Gen.Selects
/-!
# C04 — Requests survive region and server faults; only real errors surface

First the decision logic: `classify` is `region.exceptionToError` over the regenerated tables and arm
order (`Gen.Exceptions`); the per-class behaviour of `SendRPC`, `handleResultError`,
`isRegionEstablished` is `Gen.RetryLoop` / `Gen.Selects` (regenerated).  Then sequentialised progress
over `Model/ClientSeq.lean`.
-/
namespace GV.Classify
open GV.Gen GV.Gen.RetryLoop

/-- No Java class name occurs twice across (or within) the three tables … -/
theorem class_tables_disjoint : tableNames.Nodup := by
  simp [tableNames, Exceptions.retryableTable, Exceptions.regionTable, Exceptions.serverTable]

/-- all orders in which the three `if … else if …` arms of the source could be written -/
def armOrders : List (List (String × String)) :=
  match Exceptions.arms with
  | [a, b, c] => [[a, b, c], [a, c, b], [b, a, c], [b, c, a], [c, a, b], [c, b, a]]
  | other => [other]

theorem armOrders_perm : ∀ p ∈ armOrders, p.Perm Exceptions.arms := by
  unfold armOrders
  split
  · rename_i a b c h
    rw [h]
    simp only [List.mem_cons, List.not_mem_nil, or_false]
    rintro p (rfl | rfl | rfl | rfl | rfl | rfl)
    · exact .refl _
    · exact .cons _ (.swap ..)
    · exact .swap ..
    · exact List.perm_middle (l₁ := [b, c]) (l₂ := [])
    · exact (List.perm_middle (l₁ := [c]) (l₂ := [b])).trans (.cons _ (.swap ..))
    · exact (List.perm_middle (l₁ := [c, b]) (l₂ := [])).trans (.cons _ (.swap ..))
  · simp

/-- … so the order of the arms of `exceptionToError` is immaterial: every order classifies every
(class, stack) alike. -/
theorem arm_order_immaterial :
    ∀ p ∈ armOrders, ∀ cls stack, classifyArms p cls stack = classify cls stack :=
  fun p hp => classifyArms_perm (armOrders_perm p hp) arm_tables_disjoint

example : armOrders.length = 6 ∧ Exceptions.arms ∈ armOrders := by decide +kernel
/-- negative: were a class in two tables, the order would matter -/
example : classifyArms [("javaRetryableExceptions", "RetryableError"), ("javaRetryableExceptions", "ServerError")]
      "org.apache.hadoop.hbase.PleaseHoldException" "" ≠
    classifyArms [("javaRetryableExceptions", "ServerError"), ("javaRetryableExceptions", "RetryableError")]
      "org.apache.hadoop.hbase.PleaseHoldException" "" := by decide +kernel

def expectNsre : List String := [
  "org.apache.hadoop.hbase.NotServingRegionException",
  "org.apache.hadoop.hbase.exceptions.RegionMovedException"]
def expectRetryable : List String := [
  "org.apache.hadoop.hbase.exceptions.RegionOpeningException",
  "org.apache.hadoop.hbase.RegionTooBusyException",
  "org.apache.hadoop.hbase.CallQueueTooBigException",
  "org.apache.hadoop.hbase.quotas.RpcThrottlingException",
  "org.apache.hadoop.hbase.PleaseHoldException",
  "org.apache.hadoop.hbase.RetryImmediatelyException"]
def expectServer : List String := [
  "org.apache.hadoop.hbase.regionserver.RegionServerAbortedException",
  "org.apache.hadoop.hbase.regionserver.RegionServerStoppedException",
  "org.apache.hadoop.hbase.exceptions.MasterStoppedException",
  "org.apache.hadoop.hbase.ipc.ServerNotRunningYetException"]

theorem expected_hits :
    (∀ c ∈ expectNsre, hits Exceptions.arms c = [("", .nsre)]) ∧
    (∀ c ∈ expectRetryable, hits Exceptions.arms c = [("", .retryable)]) ∧
    (∀ c ∈ expectServer, hits Exceptions.arms c = [("", .server)]) ∧
    hits Exceptions.arms "java.io.IOException" = [("Cannot append; log is closed", .nsre)] := by
  -- first the lists, down to the last `∀ c ∈ []`: under a binder `simp` is lost in `hits … c`
  simp only [expectNsre, expectRetryable, expectServer, List.forall_mem_cons, List.not_mem_nil,
    false_imp_iff, implies_true, and_true]
  simp [hits, Exceptions.arms, tableOf, lookup, classOfType, Exceptions.retryableTable,
    Exceptions.regionTable, Exceptions.serverTable]

/-- The classification the property states, for every stack trace:
region-level classes → NotServingRegionError, retry-later classes → RetryableError, server-level
classes → ServerError; `java.io.IOException` is region-level exactly when the stack contains
"Cannot append; log is closed", otherwise it is returned to the caller. -/
theorem expected_classification (stack : String) :
    (∀ c ∈ expectNsre, classify c stack = .nsre) ∧
    (∀ c ∈ expectRetryable, classify c stack = .retryable) ∧
    (∀ c ∈ expectServer, classify c stack = .server) ∧
    (contains stack "Cannot append; log is closed" = true →
      classify "java.io.IOException" stack = .nsre) ∧
    (contains stack "Cannot append; log is closed" = false →
      classify "java.io.IOException" stack = .fatal) := by
  obtain ⟨h1, h2, h3, h4⟩ := expected_hits
  refine ⟨fun c hc => classify_of_hits c stack _ (h1 c hc),
          fun c hc => classify_of_hits c stack _ (h2 c hc),
          fun c hc => classify_of_hits c stack _ (h3 c hc), ?_, ?_⟩
  · intro h; rw [classify_eq, h4]; simp [firstHit, h]
  · intro h; rw [classify_eq, h4]; simp [firstHit, h]

/-- the expectation lists cover the tables exactly: no class of the source is left unexamined -/
theorem expectation_covers_tables :
    ∀ c ∈ tableNames, c ∈ expectNsre ++ expectRetryable ++ expectServer ++ ["java.io.IOException"] := by
  simp [tableNames, expectNsre, expectRetryable, expectServer, Exceptions.retryableTable,
    Exceptions.regionTable, Exceptions.serverTable]

/- Test vectors: `decide +kernel` where `contains` meets two literals (nothing else evaluates it at a
bearable price), `simp` through `classify_eq` where it does not (DESIGN.md §14.7). -/
example : classify "java.io.IOException"
    "java.io.IOException: Cannot append; log is closed\n\tat org.apache…" = .nsre := by decide +kernel
example : classify "java.io.IOException" "java.io.IOException: disk full" = .fatal := by decide +kernel
example : classify "org.apache.hadoop.hbase.exceptions.RegionMovedException" "anything" = .nsre := by
  simp [classify_eq, firstHit, contains_empty, hits, Exceptions.arms, tableOf, lookup, classOfType,
    Exceptions.retryableTable, Exceptions.regionTable, Exceptions.serverTable]

/-- Any class in none of the tables (application exceptions, DoNotRetryIOException, …) is
returned to the caller as a plain error. -/
theorem unknown_class_is_fatal (cls stack : String) (h : cls ∉ tableNames) :
    classify cls stack = .fatal :=
  classify_unknown cls stack h

example : classify "org.apache.hadoop.hbase.DoNotRetryIOException" "x" = .fatal :=
  unknown_class_is_fatal _ _ (by
    simp [tableNames, Exceptions.retryableTable, Exceptions.regionTable, Exceptions.serverTable])
example : classify "org.apache.hadoop.hbase.TableNotFoundException" "" = .fatal := by
  simp [classify_eq, firstHit, hits, Exceptions.arms, tableOf, lookup, Exceptions.retryableTable,
    Exceptions.regionTable, Exceptions.serverTable]

/-! ## What each loop does with each class (`Gen.RetryLoop`) -/

/-- the Go type name an error of the class has in a `switch err.(type)` -/
def ErrClass.typeName : ErrClass → String
  | .retryable => "RetryableError"
  | .nsre => "NotServingRegionError"
  | .server => "ServerError"
  | .fatal => "error"

theorem typeName_classOfType : ∀ k : ErrClass, classOfType k.typeName = k := by
  intro k; cases k <;> simp [classOfType, ErrClass.typeName]

/-- the type names the arms of `exceptionToError` produce are the ones the loops switch on -/
theorem arm_types_are_loop_types :
    ∀ a ∈ Exceptions.arms, a.2 ∈ [ErrClass.retryable, .nsre, .server].map ErrClass.typeName := by
  simp [Exceptions.arms, ErrClass.typeName]

inductive Decision where
  | retry     -- `continue`
  | ret       -- falls out of the type switch: `return msg, err`
  deriving Repr, DecidableEq

/-- `SendRPC`'s type switch: an error is retried iff some arm lists its type and that arm ends
in `continue`; anything else reaches `return msg, err` below the switch. -/
def sendRPCDecision (k : ErrClass) : Decision :=
  match sendRPCArms.find? (fun a => a.types.contains k.typeName) with
  | some a => if a.continues then .retry else .ret
  | none => .ret

/-- A fatal (unclassified) error matches no arm of `SendRPC`'s switch: it is returned, not
retried; and only the three classified kinds are retried. -/
theorem fatal_returned_not_retried :
    sendRPCDecision .fatal = .ret ∧
    (∀ k, sendRPCDecision k = .retry ↔ k ≠ .fatal) ∧
    sendRPCArms.flatMap (·.types) = ["RetryableError", "NotServingRegionError", "ServerError"] ∧
    (∀ a ∈ sendRPCArms, a.continues = true) ∧
    -- SendBatch: the `default` arm marks the call unretryable, the others queue it for retry
    (∀ a ∈ waitForCompletionArms, a.marks.contains "append:retryables" = !a.types.contains "default") ∧
    (∀ a ∈ waitForCompletionArms, a.types.contains "default" → a.marks = ["true:unretryableError"]) := by
  refine ⟨by decide +kernel, ?_, rfl, by simp [sendRPCArms], by simp [waitForCompletionArms],
    by simp [waitForCompletionArms]⟩
  intro k; cases k <;> simp [sendRPCDecision, sendRPCArms, ErrClass.typeName]

example : sendRPCDecision .nsre = .retry := by decide

/-- does `handleResultError` do anything for an error of this class -/
def handlerActs (k : ErrClass) : Bool := handleResultErrorArms.any (·.contains k.typeName)

/-- does the establisher's probe treat an answer of this class as "region not established" -/
def probeNotEstablished (k : ErrClass) : Bool :=
  match isRegionEstablishedArms.find? (fun ts => ts.contains k.typeName || ts.contains "default") with
  | some ts => !ts.contains "default"
  | none => false

/-- `handleResultError` acts on NotServingRegionError and ServerError only (a retry-later answer
and a fatal error leave region and connection alone); every `go c.reestablishRegion` in it is
taken only by the goroutine whose `reg.MarkUnavailable()` created the channel; the probe of
`isRegionEstablished` treats exactly the three classified kinds as "not established" and any
other answer (including an application error) as established. -/
theorem handler_per_class :
    handleResultErrorArms = [["NotServingRegionError"], ["ServerError"]] ∧
    (∀ k, handlerActs k = true ↔ (k = .nsre ∨ k = .server)) ∧
    (∀ g ∈ Selects.goStmts, g.fn = "client.handleResultError" →
        g.call = "c.reestablishRegion" ∧ g.guard = "reg.MarkUnavailable()") ∧
    (∀ g ∈ Selects.goStmts, g.fn = "client.clientDown" →
        g.call = "c.reestablishRegion" ∧
        (g.guard = "reg.MarkUnavailable()" ∨ g.guard = "downreg.MarkUnavailable()")) ∧
    (∀ k, probeNotEstablished k = true ↔ k ≠ .fatal) := by
  refine ⟨rfl, ?_, by simp [Selects.goStmts], by simp [Selects.goStmts], ?_⟩
  · intro k; cases k <;> simp [handlerActs, handleResultErrorArms, ErrClass.typeName]
  · intro k; cases k <;> simp [probeNotEstablished, isRegionEstablishedArms, ErrClass.typeName]

example : handlerActs .retryable = false ∧ handlerActs .fatal = false := by decide
example : (Selects.goStmts.filter (·.fn = "client.handleResultError")).length = 2 := by
  simp [Selects.goStmts]

end GV.Classify

/-!
## Sequentialised progress (`Model/ClientSeq.lean`)

Assumptions of the model (stated in full in the model file): stable layout, lookups return the
truth, one handler + establisher runs to completion between two attempts, fair scheduling.
-/
namespace GV.ClientSeq
open GV.Classify

/-- Every failed attempt is paid for: the handler and the establisher it starts remove a stale
cache entry, a stale region→connection link, a broken connection object or consume a pending
retry-later answer, and add none. -/
theorem stale_measure_decreases (L : Layout) (hL : RealError L) (c c' : Client) (k : ErrClass)
    (h : attempt L c = (.failed k, c')) : measure L c' < measure L c := by
  have hs := attempt_spec L hL c
  rw [h] at hs
  cases hs with
  | failed _ _ hlt => exact hlt

/-- An attempt never ends anywhere but: retried (classified), answered at the owner, or a real
error from the owner — in particular a classified error is never handed to the caller and the
requester is never left without a region and a connection (`stuck`). -/
theorem attempt_outcomes (L : Layout) (hL : RealError L) (c : Client) :
    (∃ k, (attempt L c).1 = .failed k) ∨ AtOwner L (attempt L c).1 := by
  have hs := attempt_spec L hL c
  generalize attempt L c = x at hs
  cases hs with
  | failed k _ _ => exact Or.inl ⟨k, rfl⟩
  | success _ => exact Or.inr (Or.inl rfl)
  | returned cls _ h => exact Or.inr (Or.inr ⟨cls, h, rfl⟩)

/-- With nothing stale left the attempt is answered by the owner's server. -/
theorem fresh_attempt_succeeds_at_owner (L : Layout) (hL : RealError L) (c : Client)
    (h0 : measure L c = 0) : AtOwner L (attempt L c).1 := by
  rcases attempt_outcomes L hL c with ⟨k, hk⟩ | h
  · have := stale_measure_decreases L hL c (attempt L c).2 k (by rw [← hk])
    omega
  · exact h

/-- From every client state — whatever is cached for the key, wherever its connection points,
however many broken connection objects and pending retry-later answers there are — the `SendRPC`
loop ends within `measure + 1` attempts, at the server hosting the owner of the key. -/
theorem eventually_succeeds (L : Layout) (hL : RealError L) (c : Client) :
    ∃ n o, n ≤ measure L c + 1 ∧ sendRPC L (measure L c + 1) c 0 = some (n, o) ∧ AtOwner L o := by
  obtain ⟨m, o, hm, _, hrun, hat⟩ := sendRPC_progress L hL (measure L c + 1) c 0 (by omega)
  exact ⟨m, o, hm, by simpa using hrun, hat⟩

/-- … and when the application has no error to report the ending is success. -/
theorem eventually_succeeds_no_app_error (L : Layout) (hn : L.appError = none) (c : Client) :
    ∃ n, n ≤ measure L c + 1 ∧
      sendRPC L (measure L c + 1) c 0 = some (n, .success (L.host L.owner) L.owner) := by
  have hL : RealError L := fun cls h => by rw [hn] at h; cases h
  obtain ⟨n, o, hle, hrun, hat⟩ := eventually_succeeds L hL c
  rcases hat with rfl | ⟨cls, h, _⟩
  · exact ⟨n, hle, hrun⟩
  · rw [hn] at h; cases h

/-- Only real errors surface: what `SendRPC` hands back other than a result is the
application's own (unclassified) exception, unchanged. -/
theorem only_real_errors_surface (L : Layout) (hL : RealError L) (c : Client) (cls : String)
    (s r : Nat) (c' : Client) (h : attempt L c = (.returned cls s r, c')) :
    L.appError = some cls ∧ cls ∉ tableNames := by
  have hs := attempt_spec L hL c
  rw [h] at hs
  cases hs with
  | returned _ _ ha => exact ⟨ha, hL cls ha⟩

def demoLayout : Layout := { owner := 7, host := fun r => if r = 7 then 2 else 1, sameStart := fun _ => false }
/-- a stale descriptor (region 3, split since), its link, a link of the owner to the wrong server, two
broken connection objects and two retry-later answers -/
def demoClient : Client :=
  { cached := some 3, links := [(3, 2), (7, 1), (9, 4)], deadConns := [2, 1], transient := 2 }

/-- non-vacuity: measure 8, done in 4 -/
example : measure demoLayout demoClient = 8 := by decide
example : sendRPC demoLayout 9 demoClient 0 = some (4, .success 2 7) := by decide +kernel
example : (attempt demoLayout demoClient).1 = .failed .server := by decide +kernel
/-- an application error comes back from the owner's server at once when nothing is stale -/
example : sendRPC { demoLayout with appError := some "org.apache.hadoop.hbase.DoNotRetryIOException" }
    1 { cached := some 7, links := [(7, 2)] } 0
    = some (1, .returned "org.apache.hadoop.hbase.DoNotRetryIOException" 2 7) := by decide +kernel
/-- negative: were a classified exception handed to the caller as the "application error", the
hypothesis `RealError` fails (and the loop would retry it, not return it) -/
example : ¬ RealError { demoLayout with appError := some "org.apache.hadoop.hbase.NotServingRegionException" } := by
  intro h
  exact h _ rfl (by
    simp [tableNames, Gen.Exceptions.retryableTable, Gen.Exceptions.regionTable, Gen.Exceptions.serverTable])

end GV.ClientSeq
