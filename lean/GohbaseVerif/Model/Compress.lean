import GohbaseVerif.Basic
import GohbaseVerif.Gen.Wire
/-!
Model of `region/compressor.go` (as it is in the working tree now):

* `Codec` — the `compression.Codec` interface as plain parameters (no axioms): `encode s` is the
  byte string `Encode(src, dst)` *appends* to `dst` (its second result is `uint32(len)` of it),
  `decode x` is what `Decode(src, dst)` appends (`none` = `error`), `chunkLen` is `ChunkLen()`.
* `consume`, `readLoop`, `Buffers.read` — `(*net.Buffers).consume` / `(*net.Buffers).Read`
  (go1.23 `net/net.go`), transcribed literally, including `consume` dropping drained buffers.
* `compressLoop`, `compressCellblocks` — the `for { n, err := cbs.Read(buf); if n == 0 {break} …}`
  loop.  Go reserves 4 bytes, lets the codec append, then patches the length at `lenOffset`;
  the model writes `toBE 4 len ++ enc` (`toBE 4` reduces mod 2^32 like `uint32(len(chunk))`).
* `readN`, `readUint32`, `chunkLoop`, `blockLoop`, `decompressCellblocks` — the decoder.  Slicing
  and `binary.BigEndian.Uint32` are `Outcome.fault` when out of range, so that "no panic" is a
  theorem about the guards and not a property of a total function.
  `out = slices.Grow(out, hint)` (`hint`: the declared block length, capped at `64 * len(b)`) is
  allocation only (capacity, not length) and is **not modelled** (resource exhaustion is outside
  the model, DESIGN §4).
  `int(compressedChunkLen)` is modelled for a 64-bit `int` (never negative).
  `uncompressedSoFar += uncompressedChunkLen` is `uint32` arithmetic: `% 2^32` explicitly.

Every loop is a recursion on the remaining input: `readLoop` on `want + #buffers`,
`compressLoop` on the number of bytes left in the buffers, `chunkLoop`/`blockLoop` on the
length of the unread stream (each iteration consumes at least 4 bytes).

`Spec.*` is the Hadoop `BlockCompressorStream`/`BlockDecompressorStream` format written from its
description, with an independent reference decoder (`Spec.parseStream`, `Spec.decodeStream`)
that counts the *remaining* raw bytes of a block down in `Nat` instead of accumulating in
`uint32`.
-/
-- the `h`, `h1`, `h2` of `match h : …` in the loops are named for `decreasing_by` only
set_option linter.unusedVariables false
namespace GV.Compress
open GV

abbrev U32 : Nat := 4294967296

structure Codec where
  encode : Bytes → Bytes
  decode : Bytes → Option Bytes
  chunkLen : Nat

/-! ### `net.Buffers` -/

/-- `(*Buffers).consume(n)`. -/
def consume : List Bytes → Nat → List Bytes
  | [], _ => []
  | b :: rest, n => if n < b.length then b.drop n :: rest else consume rest (n - b.length)

theorem consume_length_le (v : List Bytes) (n : Nat) : (consume v n).length ≤ v.length := by
  induction v generalizing n with
  | nil => exact Nat.le_refl _
  | cons b rest ih =>
    rw [consume]
    split
    · exact Nat.le_refl _
    · exact Nat.le_succ_of_le (ih _)

/-- The loop `for len(p) > 0 && len(*v) > 0 { n0 := copy(p, (*v)[0]); v.consume(n0); p = p[n0:]; n += n0 }`
of `(*Buffers).Read`; `want = len(p)`.  Returns the bytes copied and the buffers left. -/
def readLoop (v : List Bytes) (want : Nat) : Bytes × List Bytes :=
  if want = 0 then ([], v) else
  match v with
  | [] => ([], [])
  | b :: rest =>
    let n0 := min want b.length
    let r := readLoop (consume (b :: rest) n0) (want - n0)
    (b.take n0 ++ r.1, r.2)
termination_by want + v.length
decreasing_by
  rename_i hw
  by_cases h0 : b.length = 0
  · have e : min want b.length = 0 := by omega
    rw [e]
    simp only [consume, h0, Nat.lt_irrefl, if_false]
    have := consume_length_le rest (0 - 0)
    simp only [List.length_cons]; omega
  · have := consume_length_le (b :: rest) (min want b.length)
    simp only [List.length_cons] at this ⊢
    omega

structure ReadResult where
  data : Bytes        -- `p[:n]`
  rest : List Bytes   -- `*v` afterwards
  eof : Bool          -- `err == io.EOF` (the only non-nil error `Read` returns)
  deriving Repr, DecidableEq

/-- `(*Buffers).Read(p)` with `len(p) = want`. -/
def Buffers.read (v : List Bytes) (want : Nat) : ReadResult :=
  let r := readLoop v want
  ⟨r.1, r.2, r.2.isEmpty⟩

theorem consume_flatten (v : List Bytes) (n : Nat) :
    (consume v n).flatten = v.flatten.drop n := by
  induction v generalizing n with
  | nil => rw [consume, List.flatten_nil, List.drop_nil]
  | cons b rest ih =>
    rw [consume, List.flatten_cons]
    split
    · rename_i h
      rw [List.flatten_cons, List.drop_append_of_le_length (Nat.le_of_lt h)]
    · rename_i h
      rw [ih, List.drop_append, List.drop_eq_nil_of_le (Nat.le_of_not_lt h), List.nil_append]

theorem readLoop_spec (v : List Bytes) (want : Nat) :
    (readLoop v want).1 = v.flatten.take want ∧ (readLoop v want).2.flatten = v.flatten.drop want := by
  fun_induction readLoop v want
  case case1 => simp                              -- nothing wanted
  case case2 => simp                              -- no buffer left
  case case3 want hw b rest n0 r ih =>            -- `n0` bytes of the first buffer, then the rest
    obtain ⟨i1, i2⟩ := ih
    simp only [r, n0] at i1 i2 ⊢
    -- `n0 ≤ |b|`: its first `n0` bytes are those of the whole; `n0 ≤ want`: `n0 + (want - n0) = want`
    rw [i1, i2, consume_flatten, List.flatten_cons, List.drop_drop,
      ← List.take_append_of_le_length (l₂ := rest.flatten) (Nat.min_le_right want b.length), ← List.take_add,
      Nat.add_sub_cancel' (Nat.min_le_left want b.length)]
    exact ⟨rfl, rfl⟩

/-! ### `compressCellblocks` -/

/-- The `for { n, err := cbs.Read(uncompressedBuffer) … }` loop; `k = len(uncompressedBuffer)`,
`b` is the output so far. -/
def compressLoop (c : Codec) (k : Nat) (v : List Bytes) (b : Bytes) : Bytes :=
  let r := Buffers.read v k
  if r.data = [] then b                                   -- `if n == 0 { break }`
  else
    let enc := c.encode r.data                            -- `c.Encode(uncompressedBuffer[:n], b)`
    let b' := b ++ toBE 4 enc.length ++ enc               -- chunk length patched in at `lenOffset`
    if r.eof then b' else compressLoop c k r.rest b'      -- `if err == io.EOF { break }`
termination_by v.flatten.length
decreasing_by
  rename_i hne0 _
  have hs := readLoop_spec v k
  have hne : ¬ (readLoop v k).1 = [] := hne0
  show (readLoop v k).2.flatten.length < _
  rw [hs.2]
  rw [hs.1] at hne
  have hk : k ≠ 0 := by intro h; simp [h] at hne
  have hv : v.flatten ≠ [] := by intro h; simp [h] at hne
  have : 0 < v.flatten.length := List.length_pos_iff.mpr hv
  simp only [List.length_drop]; omega

/-- `(c *compressor).compressCellblocks(cbs, uncompressedLen)`. -/
def compressCellblocks (c : Codec) (cbs : List Bytes) (uncompressedLen : Nat) : Bytes :=
  compressLoop c (min uncompressedLen c.chunkLen) cbs (toBE 4 uncompressedLen)

/-! ### `decompressCellblocks` -/

/-- `b[:n]` (cap = len). -/
def sliceTo (b : Bytes) (n : Nat) : Outcome Bytes :=
  if n ≤ b.length then .ok (b.take n) else .fault "slice bounds out of range"

/-- `b[n:]`. -/
def sliceFrom (b : Bytes) (n : Nat) : Outcome Bytes :=
  if n ≤ b.length then .ok (b.drop n) else .fault "slice bounds out of range"

/-- `readN(b, n)`. -/
def readN (b : Bytes) (n : Nat) : Outcome (Bytes × Bytes) :=
  if b.length < n then .err "short-read" else
  match sliceTo b n, sliceFrom b n with
  | .ok h, .ok t => .ok (h, t)
  | _, _ => .fault "slice bounds out of range"

/-- `binary.BigEndian.Uint32(h)` (`_ = b[3]` bounds check). -/
def beUint32 (h : Bytes) : Outcome Nat :=
  if h.length < 4 then .fault "index out of range [3]" else .ok (beNat (h.take 4))

/-- `readUint32(b)`. -/
def readUint32 (b : Bytes) : Outcome (Nat × Bytes) :=
  match readN b 4 with
  | .ok (h, t) =>
    match beUint32 h with
    | .ok v => .ok (v, t)
    | .err e => .err e
    | .fault w => .fault w
  | .err e => .err e
  | .fault w => .fault w

theorem readN_of_le {b : Bytes} {n : Nat} (hle : n ≤ b.length) :
    readN b n = .ok (b.take n, b.drop n) := by
  unfold readN sliceTo sliceFrom
  have hl : ¬ b.length < n := by omega
  simp only [hl, hle, if_false, if_true]

theorem readN_of_lt {b : Bytes} {n : Nat} (hlt : b.length < n) : readN b n = .err "short-read" := by
  unfold readN; simp [hlt]

theorem readN_ok {b : Bytes} {n : Nat} {h t : Bytes} (e : readN b n = .ok (h, t)) :
    n ≤ b.length ∧ h = b.take n ∧ t = b.drop n := by
  by_cases hle : n ≤ b.length
  · rw [readN_of_le hle] at e
    cases e
    exact ⟨hle, rfl, rfl⟩
  · rw [readN_of_lt (Nat.lt_of_not_le hle)] at e; cases e

theorem readUint32_of_le {b : Bytes} (hle : 4 ≤ b.length) :
    readUint32 b = .ok (beNat (b.take 4), b.drop 4) := by
  unfold readUint32 beUint32
  rw [readN_of_le hle]
  have : ¬ (b.take 4).length < 4 := by simp [List.length_take]; omega
  simp only [this, if_false, List.take_take, Nat.min_self]

theorem readUint32_of_lt {b : Bytes} (hlt : b.length < 4) : readUint32 b = .err "short-read" := by
  unfold readUint32; rw [readN_of_lt hlt]

theorem readUint32_ok {b : Bytes} {v : Nat} {t : Bytes} (e : readUint32 b = .ok (v, t)) :
    4 ≤ b.length ∧ v = beNat (b.take 4) ∧ t = b.drop 4 := by
  by_cases hle : 4 ≤ b.length
  · rw [readUint32_of_le hle] at e
    cases e
    exact ⟨hle, rfl, rfl⟩
  · rw [readUint32_of_lt (by omega)] at e; cases e

/-- State after the inner loop: `(uncompressedSoFar, b, out)`. -/
abbrev ChunkState := Nat × Bytes × Bytes

/-- `for uncompressedSoFar < uncompressedBlockLen { … }`. -/
def chunkLoop (c : Codec) (blockLen soFar : Nat) (b out : Bytes) : Outcome ChunkState :=
  if soFar < blockLen then
    match h1 : readUint32 b with
    | .err _ => .err "chunk-len"         -- "failed to read compressed chunk block length"
    | .fault w => .fault w
    | .ok (cl, b1) =>
      match h2 : readN b1 cl with
      | .err _ => .err "chunk"           -- "failed to read compressed chunk"
      | .fault w => .fault w
      | .ok (chunk, b2) =>
        match c.decode chunk with
        | none => .err "decode"          -- "failed to decode compressed chunk"
        | some d => chunkLoop c blockLen ((soFar + d.length % U32) % U32) b2 (out ++ d)
  else .ok (soFar, b, out)
termination_by b.length
decreasing_by
  have a := readUint32_ok h1
  have a2 := readN_ok h2
  rw [a2.2.2, a.2.2]
  simp only [List.length_drop]
  omega

theorem chunkLoop_rest_le (c : Codec) (blockLen soFar : Nat) (b out : Bytes) {st : ChunkState}
    (e : chunkLoop c blockLen soFar b out = .ok st) : st.2.1.length ≤ b.length := by
  fun_induction chunkLoop c blockLen soFar b out
  case case6 h1 _ _ h2 _ _ ih =>                  -- a chunk was read: on with `b2`
    have := ih e
    obtain ⟨_, _, rfl⟩ := readUint32_ok h1
    obtain ⟨_, _, rfl⟩ := readN_ok h2
    rw [List.length_drop, List.length_drop] at this
    omega
  case case7 => cases e; exact Nat.le_refl _     -- the loop has ended
  all_goals cases e                               -- an error

/-- `for len(b) > 0 { … }` of `decompressCellblocks`. -/
def blockLoop (c : Codec) (b out : Bytes) : Outcome Bytes :=
  if b.length = 0 then .ok out else
  match h1 : readUint32 b with
  | .err _ => .err "block-len"           -- "failed to read uncompressed block length"
  | .fault w => .fault w
  | .ok (blockLen, b1) =>
    -- `out = slices.Grow(out, int(uncompressedBlockLen))`: capacity only, not modelled
    match h2 : chunkLoop c blockLen 0 b1 out with
    | .err e => .err e
    | .fault w => .fault w
    | .ok (soFar, b2, out') =>
      if soFar > blockLen then .err "more"      -- "uncompressed more than expected"
      else blockLoop c b2 out'
termination_by b.length
decreasing_by
  have a := readUint32_ok h1
  have l := chunkLoop_rest_le _ _ _ _ _ h2
  simp only at l
  rw [a.2.2] at l
  simp only [List.length_drop] at l
  omega

/-- `(c *compressor).decompressCellblocks(b)` (a nil result slice is the empty byte string). -/
def decompressCellblocks (c : Codec) (b : Bytes) : Outcome Bytes := blockLoop c b []

/-! ### The Hadoop block-compressed stream format (specification side)

`BlockCompressorStream`: a stream is a sequence of blocks.  A block is the 4-byte big-endian
length of its raw (uncompressed) data followed by chunks; a chunk is the 4-byte big-endian
length of its compressed bytes followed by them; the decoded chunks of a block concatenate to
exactly the raw length.  A compressor never emits an empty chunk and never gives the codec more
than its buffer size (`chunkLen`) at once. -/
namespace Spec

/-- A block handed to the encoder as the raw pieces it is chunked into. -/
abbrev Pieces := List Bytes

def encChunk (c : Codec) (p : Bytes) : Bytes := toBE 4 (c.encode p).length ++ c.encode p

def encBlock (c : Codec) (ps : Pieces) : Bytes :=
  toBE 4 ps.flatten.length ++ (ps.map (encChunk c)).flatten

/-- The stream a conforming compressor produces for `blocks`, each cut into the given pieces
("chunking" = the way each block is written as a concatenation of pieces). -/
def encode (c : Codec) (blocks : List Pieces) : Bytes := (blocks.map (encBlock c)).flatten

/-- The raw data a list of chunked blocks stands for. -/
def rawData (blocks : List Pieces) : Bytes := (blocks.map List.flatten).flatten

/-- Everything fits its 4-byte length field and no chunk is empty. -/
def WellSized (c : Codec) (blocks : List Pieces) : Prop :=
  ∀ ps ∈ blocks, ps.flatten.length < U32 ∧ ∀ p ∈ ps, p ≠ [] ∧ (c.encode p).length < U32

/-- `s` is a conforming stream: the encoding of some blocks, chunked somehow, every chunk
non-empty and no larger than the codec's chunk size. -/
def hadoopStream (c : Codec) (s : Bytes) : Prop :=
  ∃ blocks : List Pieces, WellSized c blocks ∧ (∀ ps ∈ blocks, ∀ p ∈ ps, p.length ≤ c.chunkLen) ∧
    s = encode c blocks

/-- Split into pieces of `k` bytes (the last one may be shorter). -/
def chunksOf (k : Nat) (s : Bytes) : List Bytes :=
  if h : k = 0 ∨ s = [] then [] else s.take k :: chunksOf k (s.drop k)
termination_by s.length
decreasing_by
  have hs : 0 < s.length := List.length_pos_iff.mpr (by intro e; exact h (Or.inr e))
  simp only [List.length_drop]; omega

/-- A parsed block: declared raw length and the decoded chunks in order. -/
structure PBlock where
  rawLen : Nat
  pieces : List Bytes
  deriving Repr, DecidableEq

def be32? (s : Bytes) : Option (Nat × Bytes) :=
  match s with
  | a :: b :: c :: d :: rest => some (((a.toNat * 256 + b.toNat) * 256 + c.toNat) * 256 + d.toNat, rest)
  | _ => none

theorem be32?_length {s : Bytes} {v : Nat} {r : Bytes} (h : be32? s = some (v, r)) :
    r.length + 4 = s.length := by
  unfold be32? at h
  split at h
  · cases h; simp
  · cases h

/-- Reference decoder for the chunks of one block: `remaining` raw bytes are still owed.
Returns the decoded pieces and the unread rest. -/
def parseChunks (c : Codec) (remaining : Nat) (s : Bytes) : Option (List Bytes × Bytes) :=
  if remaining = 0 then some ([], s) else
  match h : be32? s with
  | none => none
  | some (cl, s1) =>
    if s1.length < cl then none else
    match c.decode (s1.take cl) with
    | none => none
    | some d =>
      if remaining < d.length then none else
      match parseChunks c (remaining - d.length) (s1.drop cl) with
      | none => none
      | some (ps, rest) => some (d :: ps, rest)
termination_by s.length
decreasing_by
  have := be32?_length h
  simp only [List.length_drop]; omega

theorem parseChunks_rest_le (c : Codec) (remaining : Nat) (s : Bytes) {ps : List Bytes} {rest : Bytes}
    (e : parseChunks c remaining s = some (ps, rest)) : rest.length ≤ s.length := by
  fun_induction parseChunks c remaining s generalizing ps
  case case1 => cases e; exact Nat.le_refl _     -- nothing owed
  case case7 hbe _ _ _ _ _ _ hrec ih =>           -- a chunk, then the rest
    cases e
    have := ih hrec
    have := be32?_length hbe
    rw [List.length_drop] at *
    omega
  all_goals cases e                               -- `none`

/-- Reference parser of a whole stream. -/
def parseStream (c : Codec) (s : Bytes) : Option (List PBlock) :=
  if s.length = 0 then some [] else
  match h : be32? s with
  | none => none
  | some (raw, s1) =>
    match h2 : parseChunks c raw s1 with
    | none => none
    | some (ps, rest) =>
      match parseStream c rest with
      | none => none
      | some bs => some (⟨raw, ps⟩ :: bs)
termination_by s.length
decreasing_by
  have := be32?_length h
  have := parseChunks_rest_le _ _ _ h2
  omega

/-- A block as it lies framed in a stream, without reference to any decoder: the declared raw
length and, per chunk, the compressed bytes together with what they decode to. -/
structure FBlock where
  rawLen : Nat
  chunks : List (Bytes × Bytes)

def FBlock.frame (b : FBlock) : Bytes :=
  toBE 4 b.rawLen ++ (b.chunks.map fun ch => toBE 4 ch.1.length ++ ch.1).flatten

def FBlock.data (b : FBlock) : Bytes := (b.chunks.map (·.2)).flatten

/-- The length fields fit 32 bits and every chunk decodes to the recorded bytes. -/
def FBlock.Valid (c : Codec) (b : FBlock) : Prop :=
  b.rawLen < U32 ∧ ∀ ch ∈ b.chunks, ch.1.length < U32 ∧ c.decode ch.1 = some ch.2

def frameStream (bs : List FBlock) : Bytes := (bs.map FBlock.frame).flatten

/-- Independent reference decoder: the raw data of a stream, `none` if it is not a stream. -/
def decodeStream (c : Codec) (s : Bytes) : Option Bytes :=
  (parseStream c s).map fun bs => (bs.map fun b => b.pieces.flatten).flatten

end Spec

/-! ### Hypotheses and helpers the theorems are stated with -/

/-- The codec contract the round-trip theorems assume (`snappy.Decode(snappy.Encode s) = s`). -/
def Codec.Roundtrip (c : Codec) : Prop := ∀ s, c.decode (c.encode s) = some s

/-- The codec never expands a compressed chunk by more than a factor `R`
(raw snappy: at most 64 output bytes per 3 input bytes, `R = 22`). -/
def Codec.ExpandsAtMost (c : Codec) (R : Nat) : Prop :=
  ∀ x d, c.decode x = some d → d.length ≤ R * x.length

/-- Forget the error class. -/
def outOpt {α : Type} : Outcome α → Option α
  | .ok a => some a
  | _ => none

/-! ### Concrete codecs used by the driver and the examples -/

/-- The tests' identity-like mock codec: chunks are stored as they are. -/
def idCodec (chunkLen : Nat) : Codec := ⟨id, some, chunkLen⟩

/-- FNV-1a, 64 bit (the harness sends large byte strings as length + this hash). -/
def fnv1a (b : Bytes) : UInt64 :=
  b.foldl (fun h x => (h ^^^ x.toUInt64) * 1099511628211) 14695981039346656037

end GV.Compress
