import GohbaseVerif.Model.RegionName
/-!
# C11 — meta row keys accepted as region names never crash the name comparison

`infoFromCell` (region/info.go, fix 7f9c1ed) refuses a meta row whose key does not have the two
commas of `table,startkey,id`: the first and the last comma must be different positions.  That
check is exactly what `region.Compare` needs: every name that passes it is of the form
`mkName t k s` with comma-free `t` and `s`, so by `compare_no_fault_wf` (C16) comparing two accepted
names never panics — whatever else the bytes are (the theorems are in `Props/C11.lean`; here the check
itself and where the last comma is).
-/
namespace GV.RegionName
open GV

/-- the check of `infoFromCell` on the row key: at least two commas -/
def acceptedName (n : Bytes) : Bool := decide (2 ≤ n.count comma)

/-- The last occurrence of an element (core's `List.eq_append_cons_of_mem` finds the first). -/
theorem eq_append_cons_of_mem_last {α} {a : α} {l : List α} (h : a ∈ l) :
    ∃ k s, l = k ++ a :: s ∧ a ∉ s := by
  obtain ⟨t, r, e, ht⟩ := List.eq_append_cons_of_mem (List.mem_reverse.mpr h)
  refine ⟨r.reverse, t.reverse, ?_, fun hm => ht (List.mem_reverse.mp hm)⟩
  rw [← List.reverse_reverse l, e, List.reverse_append, List.reverse_cons, List.append_assoc]
  rfl

/-- The check is needed: a name with one comma panics against a good one. -/
example : (compareName [122, 122, 44, 97] [122, 122, 44, 97, 44, 49]).isFault = true := by decide  -- "zz,a" vs "zz,a,1"
example : acceptedName [116, 44, 97, 44, 49] = true := by decide   -- "t,a,1"
example : acceptedName [122, 122, 44, 97] = false := by decide     -- "zz,a"

end GV.RegionName
