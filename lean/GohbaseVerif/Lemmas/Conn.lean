import GohbaseVerif.Model.Conn
import GohbaseVerif.Lemmas.ListFacts
/-!
The control structure of the region-connection transition system (`Model/Conn.lean`), analysed once
for the invariants of `ConnOwn`, `ConnFlight` and `ConnAfter`: `Step` / `step_cases` for `step`,
`writerLoop_ind` and `wakeM_ind` for the two fuel loops, `*_cases` and `*_eq` for the helpers; and
what the helpers leave alone, as relations to the earlier state (`Failed`, `Sending`, `Ext`). Every
invariant, and `Ext a`, is carried through the helpers as a predicate on the later state.

Idiom: `{ h with }` (or `{ h with f := … }`) restates a structure-valued fact `h` about one state at
another state that differs only in what `h` does not read. The two states are not definitionally
equal, so `exact h` fails; each field's statement is, and is checked again field by field. (An
invariant that is a plain definition, `DS` or `DR`, unfolds to such a statement itself: there
`exact h` does.)

Trap: `… % uint32` is always abstracted into a variable `n` (the `…N` forms), because unfolding
`x + 4294967296` definitionally is fatal.
-/
namespace GV.Conn

/-- the item the reader goroutine holds in its hand (unregistered, not yet completed) -/
def Reader.held : Reader → Option (Nat × Item × Frame)
  | .downWait id it f => some (id, it, f)
  | .clearing id it f => some (id, it, f)
  | _ => none

def Reader.calls (r : Reader) : List Nat :=
  match r.held with
  | some (_, it, _) => it.calls
  | none => []

theorem Reader.calls_of_none {r : Reader} (h : r.held = none) : r.calls = [] := by
  simp [Reader.calls, h]

theorem Reader.calls_of_some {r : Reader} {id : Nat} {it : Item} {f : Frame}
    (h : r.held = some (id, it, f)) : r.calls = it.calls := by
  simp [Reader.calls, h]

theorem Reader.calls_congr {r r' : Reader} (h : r'.held = r.held) : r'.calls = r.calls := by
  simp [Reader.calls, h]

/-- 1 while the reader has unregistered an item but not yet counted it down (the `+ dw` of `GD.eq`
and `GD.bound`) -/
def Reader.dw : Reader → Nat
  | .downWait _ _ _ => 1
  | _ => 0

def Reader.isClearing : Reader → Bool
  | .clearing _ _ _ => true
  | _ => false

/-- what `fail` makes of the reader: one parked in `Read` gets an error from the closed connection
and exits; one that holds a frame keeps it -/
def Reader.afterFail (r : Reader) : Reader := if r = .reading then .exited else r

theorem Reader.held_afterFail (r : Reader) : r.afterFail.held = r.held := by cases r <;> rfl

theorem Reader.isClearing_afterFail (r : Reader) : r.afterFail.isClearing = r.isClearing := by
  cases r <;> rfl

theorem Reader.dw_afterFail (r : Reader) : r.afterFail.dw = r.dw := by cases r <;> rfl

theorem Reader.afterFail_ne_reading (r : Reader) : r.afterFail ≠ .reading := by cases r <;> nofun

theorem deliverAll_eq (its : List Item) (r : Res) (s : St) :
    deliverAll s its r =
      { s with delivered := s.delivered ++ its.flatMap (fun it => it.calls.map (fun c => Dlv.mk c r none)) } := by
  induction its generalizing s with
  | nil => simp [deliverAll]
  | cons it its ih =>
    simp only [deliverAll, List.foldl_cons] at ih ⊢
    rw [ih]
    simp [deliverItem, List.append_assoc]

/-- deliveries made by `fail` -/
def failDlv (s : St) : List Dlv :=
  s.sent.flatMap (fun p => p.2.calls.map (fun c => Dlv.mk c Res.connErr none)) ++
    s.offered.map (fun c => Dlv.mk c Res.connErr none)

theorem failConn_eq (s : St) :
    failConn s = if s.done then s else
      { s with done := true, sent := [], offered := [], delivered := s.delivered ++ failDlv s,
               reader := s.reader.afterFail,
               writerExited := if s.writerBusy then s.writerExited else true } := by
  unfold failConn
  split
  · rfl
  · simp only [deliverAll_eq, failDlv, List.flatMap_map, List.append_assoc, Reader.afterFail]
    by_cases h1 : s.reader = .reading <;> by_cases h2 : s.writerBusy = true <;> simp [h1, h2]

def hasArm (l : List Snd) : Bool := l.any (fun x => x.phase == .arm)

theorem hasArm_iff (l : List Snd) : hasArm l = true ↔ ∃ x ∈ l, x.phase = .arm := by
  simp [hasArm, List.any_eq_true]

theorem mHeld_eq (s : St) : mHeld s = (hasArm s.sends || s.reader.isClearing) := by
  unfold mHeld Reader.isClearing hasArm
  cases s.reader <;> rfl

theorem not_mHeld {s : St} (h : mHeld s = false) :
    (∀ x ∈ s.sends, x.phase ≠ .arm) ∧ s.reader.isClearing = false := by
  rw [mHeld_eq, Bool.or_eq_false_iff] at h
  refine ⟨fun x hx hp => ?_, h.2⟩
  rw [(hasArm_iff _).2 ⟨x, hx, hp⟩] at h
  cases h.1

theorem mHeld_congr {s s' : St} (e1 : hasArm s'.sends = hasArm s.sends)
    (e2 : s'.reader.isClearing = s.reader.isClearing) : mHeld s' = mHeld s := by
  rw [mHeld_eq, mHeld_eq, e1, e2]

/-- `s` is `a` after `fail`: `done`, and what `fail` leaves alone. -/
structure Failed (a s : St) : Prop where
  done : s.done = true
  sends : s.sends = a.sends
  mWait : s.mWait = a.mWait
  handed : s.handed = a.handed
  held : s.reader.held = a.reader.held
  clr : s.reader.isClearing = a.reader.isClearing

theorem failed_failConn (s : St) : Failed s (failConn s) := by
  rw [failConn_eq]
  split
  · rename_i hd
    exact { done := hd, sends := rfl, mWait := rfl, handed := rfl, held := rfl, clr := rfl }
  · exact { done := rfl, sends := rfl, mWait := rfl, handed := rfl,
            held := s.reader.held_afterFail, clr := s.reader.isClearing_afterFail }

/-- the reader fails the connection and exits (a read error, a header that does not decode, an id
nobody waits for, a frame that is `Frame.fatal`, a failing `SetReadDeadline`) -/
def readerFail (s : St) : St := { failConn { s with reader := .exited } with reader := .exited }

/-- (`fail` leaves a reader that has exited alone: setting it again changes nothing) -/
theorem readerFail_eq (s : St) : readerFail s = failConn { s with reader := .exited } := by
  rw [readerFail, failConn_eq]
  split <;> rfl

theorem failed_readerFail (s : St) : Failed { s with reader := .exited } (readerFail s) :=
  readerFail_eq s ▸ failed_failConn _

theorem sent_failConn {s : St} (hd : s.done = false) : (failConn s).sent = [] := by
  rw [failConn_eq, if_neg (by simp [hd])]

theorem sendFailed_cases {Q : St → Prop} (s : St) (snd : Snd)
    (hsome : ∀ it, lookupSent (failConn s) snd.id = some it →
      Q (deliverItem (eraseSent (failConn s) snd.id) it .connErr none))
    (hnone : lookupSent (failConn s) snd.id = none → Q (failConn s)) : Q (sendFailed s snd) := by
  simp only [sendFailed]
  split
  · rename_i it hl; exact hsome it hl
  · rename_i hl; exact hnone hl

theorem failed_sendFailed (s : St) (snd : Snd) : Failed s (sendFailed s snd) :=
  sendFailed_cases (Q := Failed s) s snd (fun _ _ => { failed_failConn s with })
    (fun _ => failed_failConn s)

theorem Failed.mHeld {a s : St} (h : Failed a s) : mHeld s = mHeld a :=
  mHeld_congr (congrArg hasArm h.sends) h.clr

def ctxEnded (s : St) (it : Item) : Bool :=
  match it with
  | .single c => s.ctxDone.contains c
  | .multi _ => false

/-- the results the reader delivers for a response frame -/
def frameDlv (id : Nat) (it : Item) : Frame → List Dlv
  | .result => it.calls.map (fun c => Dlv.mk c .ok (some id))
  | .undecodable => it.calls.map (fun c => Dlv.mk c .retryable (some id))
  | .perCall rs => it.calls.map (fun c =>
      Dlv.mk c (((rs.find? (·.1 == c)).map (·.2)).getD .retryable) (some id))
  | .exception r => it.calls.map (fun c => Dlv.mk c r (some id))
  | .badHeader => []

theorem finishFrame_eq (s : St) (id : Nat) (it : Item) (f : Frame) :
    finishFrame s id it f =
      if ctxEnded s it then { s with reader := readerNext s, dropped := s.dropped ++ it.calls }
      else if f = .badHeader then s
      else if f.fatal then readerFail { s with delivered := s.delivered ++ frameDlv id it f }
      else { s with delivered := s.delivered ++ frameDlv id it f, reader := readerNext s } := by
  -- `ctxEnded` is the model's own test; below it every kind of frame computes to its line
  show (if ctxEnded s it = true then _ else _) = _
  split
  · rfl
  · cases f with
    | exception r => cases r <;> rfl
    | _ => rfl

theorem finishFrame_cases {Q : St → Prop} (s : St) (id : Nat) (it : Item) (f : Frame)
    (hdrop : ctxEnded s it = true →
      Q { s with reader := readerNext s, dropped := s.dropped ++ it.calls })
    (hbad : f = .badHeader → Q s)
    (hdlv : f.fatal = false →
      Q { s with delivered := s.delivered ++ frameDlv id it f, reader := readerNext s })
    (hfatal : f.fatal = true →
      Q (readerFail { s with delivered := s.delivered ++ frameDlv id it f })) :
    Q (finishFrame s id it f) := by
  rw [finishFrame_eq]
  split
  · rename_i h; exact hdrop h
  · split
    · rename_i h; exact hbad h
    · split
      · rename_i h; exact hfatal h
      · rename_i h; exact hdlv (by simpa using h)

theorem readerNext_cases {Q : Reader → Prop} (s : St) (hexit : s.done = true → Q .exited)
    (hread : s.done = false → Q .reading) : Q (readerNext s) := by
  simp only [readerNext]
  split
  · rename_i h; exact hexit h
  · rename_i h; exact hread (by simpa using h)

theorem mem_ctxDone_of_ctxEnded {s : St} {it : Item} (h : ctxEnded s it = true) :
    ∀ c ∈ it.calls, c ∈ s.ctxDone := by
  cases it with
  | single a =>
    intro c hc
    rw [List.mem_singleton.1 hc]
    simpa [ctxEnded] using h
  | multi _ => simp [ctxEnded] at h

theorem frameDlv_src (id : Nat) (it : Item) (f : Frame) :
    ∀ d ∈ frameDlv id it f, d.src = some id ∧ d.call ∈ it.calls := by
  intro d hd
  cases f <;> simp only [frameDlv, List.mem_map, List.not_mem_nil] at hd <;>
    (obtain ⟨c, hc, rfl⟩ := hd; exact ⟨rfl, hc⟩)

theorem finishSend_cases {Q : St → Prop} (s : St) (w : Who)
    (hwriter : w = .writer →
      Q (writerLoop { s with sends := s.sends.filter (fun x => x.who != w), writerBusy := false }))
    (hdirect : w ≠ .writer → Q { s with sends := s.sends.filter (fun x => x.who != w) }) :
    Q (finishSend s w) := by
  simp only [finishSend]
  split
  · rename_i h; exact hwriter h
  · rename_i h; exact hdirect h

theorem senderAtM_cases {Q : St → Prop} (s : St) (w : Who)
    (hzero : s.inFlight = 0 → Q (finishSend s w)) (harm : s.inFlight ≠ 0 → Q (setPhase s w .arm)) :
    Q (senderAtM s w) := by
  simp only [senderAtM]
  split
  · rename_i h; exact hzero h
  · rename_i h; exact harm h

theorem releaseWriteM_cases {Q : St → Prop} (s : St)
    (hnext : ∀ x, s.sends.find? (fun x => x.phase == .lockWait) = some x →
      Q { s with writeM := some x.who,
                 sends := s.sends.map (fun y => if y.who == x.who then { y with phase := .write } else y) })
    (hnone : Q { s with writeM := none }) : Q (releaseWriteM s) := by
  simp only [releaseWriteM]
  split
  · rename_i x hx; exact hnext x hx
  · exact hnone

def readerAtN (s : St) (n : Nat) (id : Nat) (it : Item) (f : Frame) : St :=
  if n = 0 then { s with inFlight := n, reader := .clearing id it f }
  else finishFrame { s with inFlight := n } id it f

theorem readerAtM_eq (s : St) (id : Nat) (it : Item) (f : Frame) :
    readerAtM s id it f = readerAtN s ((s.inFlight + uint32 - 1) % uint32) id it f := rfl

theorem readerAtM_cases {Q : St → Prop} (s : St) (id : Nat) (it : Item) (f : Frame)
    (hclr : ∀ n, Q { s with inFlight := n, reader := .clearing id it f })
    (hfin : ∀ n, Q (finishFrame { s with inFlight := n } id it f)) : Q (readerAtM s id it f) := by
  rw [readerAtM_eq]
  generalize (s.inFlight + uint32 - 1) % uint32 = n
  simp only [readerAtN]
  split
  · exact hclr n
  · exact hfin n

def newSnd (s : St) (w : Who) (it : Item) : Snd :=
  { who := w, id := s.nextId + 1, item := it, phase := .addWait }

/-- the registration part of `startSend` -/
def regSend (s : St) (w : Who) (it : Item) : St :=
  { s with nextId := s.nextId + 1, sent := s.sent ++ [(s.nextId + 1, it)],
           wroteAs := s.wroteAs ++ it.calls.map (fun c => (c, s.nextId + 1)),
           sends := s.sends ++ [newSnd s w it] }

/-- what `senderAdd` does to the send of the goroutine -/
def sndAfterAdd (s : St) (y : Snd) : Snd :=
  { y with phase := if s.writeM.isNone then Phase.write else Phase.lockWait }

def senderAddN (s : St) (n : Nat) (w : Who) : St :=
  { s with inFlight := n,
           writeM := if s.writeM.isNone then some w else s.writeM,
           sends := s.sends.map (fun y => if y.who == w then sndAfterAdd s y else y) }

theorem startSend_eq (s : St) (w : Who) (it : Item) :
    startSend s w it =
      if mHeld (regSend s w it) then
        { regSend s w it with mWait := (regSend s w it).mWait ++ [.sender w] }
      else senderAddN (regSend s w it) (((regSend s w it).inFlight + 1) % uint32) w := rfl

/-- the calls of the next batch whose context has not ended -/
def wlLive (s : St) : List Nat :=
  (s.offered.take s.queueSize).filter (fun c => !s.ctxDone.contains c)

/-- the batch has been taken off the queue, its dead calls dropped -/
def wlTaken (s : St) : St :=
  { s with offered := s.offered.drop s.queueSize,
           dropped := s.dropped ++ (s.offered.take s.queueSize).filter (fun c => s.ctxDone.contains c) }

/-- the batch contains a call that cannot be marshalled: it is completed locally -/
def wlPoison (s : St) : St :=
  { wlTaken s with nextId := s.nextId + 1, unsendable := s.unsendable ++ wlLive s,
                   delivered := s.delivered ++ (wlLive s).map (fun c => Dlv.mk c .fatal none) }

def wlSend (s : St) : St :=
  startSend { wlTaken s with writerBusy := true } .writer (.multi (wlLive s))

theorem writerLoopN_succ (n : Nat) (s : St) :
    writerLoopN (n + 1) s =
      if s.writerExited || s.writerBusy then s
      else if s.done then { s with writerExited := true }
      else if s.offered = [] then s
      else if (wlLive s).any (fun c => s.poison.contains c) then writerLoopN n (wlPoison s)
      else wlSend s := by
  rw [writerLoopN]
  cases h : s.offered with
  | nil => simp
  | cons a l => simp only [reduceCtorEq, if_false]; rw [← h]; rfl

theorem writerLoop_ind {Q : St → Prop} (s : St) (h0 : Q s)
    (hexit : ∀ s, Q s → Q { s with writerExited := true })
    (hpois : ∀ s, Q s → (s.writerExited || s.writerBusy) = false → s.done = false → Q (wlPoison s))
    (hsend : ∀ s, Q s → (s.writerExited || s.writerBusy) = false → s.done = false → Q (wlSend s)) :
    Q (writerLoop s) := by
  unfold writerLoop
  generalize s.offered.length + 1 = n
  induction n generalizing s with
  | zero => exact h0
  | succ n ih =>
    rw [writerLoopN_succ]
    split
    · exact h0
    · rename_i hb
      have hb : (s.writerExited || s.writerBusy) = false := by simpa using hb
      split
      · exact hexit s h0
      · rename_i hd
        have hd : s.done = false := by simpa using hd
        split
        · exact h0
        · split
          · exact ih _ (hpois s h0 hb hd)
          · exact hsend s h0 hb hd

/-- phase of the send of `w` as `wakeM` looks it up (first `Snd` of `w`) -/
def phaseOf (l : List Snd) (w : Who) : Option Phase := (l.find? (fun x => x.who == w)).map (·.phase)

/-- does this queue entry stand for a pending `inFlight++` ? -/
def qAdd (l : List Snd) : MW → Bool
  | .sender w => phaseOf l w == some .addWait
  | .reader => false

/-- one hand-off of `inFlightM`: what the waiter `e`, already taken off the queue, does with it -/
def serve (s : St) : MW → St
  | .sender w =>
    match phaseOf s.sends w with
    | some .addWait => senderAdd s w
    | some .armWait => senderAtM s w
    | _ => s
  | .reader =>
    match s.reader with
    | .downWait id it f => readerAtM s id it f
    | _ => s

theorem wakeM_succ (n : Nat) (s : St) :
    wakeM (n + 1) s =
      if mHeld s then s else
      match s.mWait with
      | [] => s
      | e :: rest => wakeM n (serve { s with mWait := rest } e) := by
  rw [wakeM]
  split
  · rfl
  · cases hq : s.mWait with
    | nil => rfl
    | cons e rest =>
      cases e with
      | reader => cases s.reader <;> rfl
      | sender w =>
        simp only [serve, phaseOf]
        cases s.sends.find? (fun x => x.who == w) with
        | none => rfl
        | some x =>
          simp only [Option.map_some]
          cases x.phase <;> rfl

/-- (`hskip`, an entry that is merely dropped, does not occur in reachable states: `GD.queued`,
`GD.readerQ`. It is given `qAdd … = false`, less than "neither `addWait` nor `armWait`", because
that is what the counter equation `GD.eq` needs to let the entry go: `gd_popNoAdd`.) -/
theorem serve_cases {Q : St → Prop} (s : St) (e : MW)
    (hadd : ∀ w, e = .sender w → phaseOf s.sends w = some .addWait → Q (senderAdd s w))
    (harm : ∀ w, e = .sender w → phaseOf s.sends w = some .armWait → Q (senderAtM s w))
    (hrd : ∀ id it f, e = .reader → s.reader = .downWait id it f → Q (readerAtM s id it f))
    (hskip : qAdd s.sends e = false → Q s) : Q (serve s e) := by
  cases e with
  | reader =>
    simp only [serve]
    split
    · rename_i id it f hr; exact hrd id it f rfl hr
    · exact hskip rfl
  | sender w =>
    simp only [serve]
    split
    · rename_i hp; exact hadd w rfl hp
    · rename_i hp; exact harm w rfl hp
    · rename_i h1 h2
      refine hskip ?_
      simp only [qAdd, beq_eq_false_iff_ne]
      exact fun e => h1 e

theorem wakeM_ind {Q : St → Prop} (n : Nat) (s : St) (h0 : Q s)
    (hadd : ∀ s w rest, Q s → mHeld s = false → s.mWait = .sender w :: rest →
      phaseOf s.sends w = some .addWait → Q (senderAdd { s with mWait := rest } w))
    (harm : ∀ s w rest, Q s → mHeld s = false → s.mWait = .sender w :: rest →
      phaseOf s.sends w = some .armWait → Q (senderAtM { s with mWait := rest } w))
    (hrd : ∀ s id it f rest, Q s → mHeld s = false → s.mWait = .reader :: rest →
      s.reader = .downWait id it f → Q (readerAtM { s with mWait := rest } id it f))
    (hskip : ∀ s e rest, Q s → mHeld s = false → s.mWait = e :: rest → qAdd s.sends e = false →
      Q { s with mWait := rest }) :
    Q (wakeM n s) := by
  induction n generalizing s with
  | zero => exact h0
  | succ n ih =>
    rw [wakeM_succ]
    split
    · exact h0
    · rename_i hm
      have hm : mHeld s = false := by simpa using hm
      split
      · exact h0
      · rename_i e rest hq
        refine ih _ (serve_cases (Q := Q) { s with mWait := rest } e ?_ ?_ ?_ ?_)
        · intro w he hp; exact hadd s w rest h0 hm (he ▸ hq) hp
        · intro w he hp; exact harm s w rest h0 hm (he ▸ hq) hp
        · intro id it f he hr; exact hrd s id it f rest h0 hm (he ▸ hq) hr
        · intro he; exact hskip s e rest h0 hm hq he

/-- What one event can do to the state: the successful branches of `step`, each under its guards.
The label of the event is dropped because no invariant reads it, so branches of several actions
that end alike are one case (`refused`, `gaveUp`, `readerFails`; `batched` with any `poison`, which
only the loop reads: the invariants hold for a slightly coarser relation than `step`).
`step_cases` is the only place where `step` is unfolded for the invariants. -/
inductive Step (s : St) : St → Prop
  | refused (c : Nat) (hc : c ∉ s.handed) (hx : c ∉ s.ctxDone) (hd : s.done = true) :
      Step s { s with handed := s.handed ++ [c], delivered := s.delivered ++ [⟨c, .connErr, none⟩] }
  | gaveUp (c : Nat) (hc : c ∉ s.handed) (hx : c ∈ s.ctxDone) (hd : s.done = false) :
      Step s { s with handed := s.handed ++ [c], dropped := s.dropped ++ [c] }
  | batched (c : Nat) (poison : List Nat) (hc : c ∉ s.handed) (hx : c ∉ s.ctxDone)
      (hd : s.done = false) :
      Step s (writerLoop { s with handed := s.handed ++ [c], offered := s.offered ++ [c],
                                  poison := poison })
  | direct (c : Nat) (hc : c ∉ s.handed) (hx : c ∉ s.ctxDone) (hd : s.done = false) :
      Step s (startSend { s with handed := s.handed ++ [c] } (.direct c) (.single c))
  | directClosing (c : Nat) (hc : c ∉ s.handed) (hx : c ∉ s.ctxDone) (hd : s.done = false) :
      Step s (startSend (failConn { s with handed := s.handed ++ [c] }) (.direct c) (.single c))
  | unsendable (c : Nat) (hc : c ∉ s.handed) (hx : c ∉ s.ctxDone) (hd : s.done = false) :
      Step s { s with handed := s.handed ++ [c], nextId := s.nextId + 1,
                      unsendable := s.unsendable ++ [c],
                      delivered := s.delivered ++ [⟨c, .fatal, none⟩] }
  | cancel (c : Nat) (hx : c ∉ s.ctxDone) :
      Step s { s with ctxDone := s.ctxDone ++ [c], offered := s.offered.filter (· != c),
                      dropped := if s.offered.contains c then s.dropped ++ [c] else s.dropped }
  | wrotePart : Step s s
  | writeErr (w : Who) (x : Snd) (hf : findSend s w .write = some x) :
      Step s (finishSend (sendFailed (releaseWriteM s) x) w)
  | wroteBusy (w : Who) (x : Snd) (hf : findSend s w .write = some x) (hd : s.done = false)
      (hm : mHeld (releaseWriteM s) = true) :
      Step s { setPhase (releaseWriteM s) w .armWait with
               mWait := (releaseWriteM s).mWait ++ [.sender w] }
  | wrote (w : Who) (x : Snd) (hf : findSend s w .write = some x) (hd : s.done = false)
      (hm : mHeld (releaseWriteM s) = false) :
      Step s (senderAtM (releaseWriteM s) w)
  | armed (w : Who) (x : Snd) (hf : findSend s w .arm = some x) (hd : s.done = false) :
      Step s (releaseM (finishSend { s with armed := true } w))
  | armErr (w : Who) (x : Snd) (hf : findSend s w .arm = some x) :
      Step s (releaseM (finishSend (sendFailed s x) w))
  | readerFails (hr : s.reader = .reading) :
      Step s (readerFail s)
  | readBusy (id : Nat) (it : Item) (f : Frame) (hr : s.reader = .reading) (hf : f ≠ .badHeader)
      (hl : lookupSent s id = some it) (hm : mHeld (eraseSent s id) = true) :
      Step s { eraseSent s id with reader := .downWait id it f,
                                   mWait := (eraseSent s id).mWait ++ [.reader] }
  | read (id : Nat) (it : Item) (f : Frame) (hr : s.reader = .reading) (hf : f ≠ .badHeader)
      (hl : lookupSent s id = some it) (hm : mHeld (eraseSent s id) = false) :
      Step s (readerAtM (eraseSent s id) id it f)
  | cleared (id : Nat) (it : Item) (f : Frame) (hr : s.reader = .clearing id it f) :
      Step s (releaseM (finishFrame { s with armed := false, reader := .reading } id it f))
  | clearErr (id : Nat) (it : Item) (f : Frame) (hr : s.reader = .clearing id it f) :
      Step s (releaseM (readerFail (deliverItem s it .connErr none)))
  | closed : Step s (failConn s)

theorem Step.of_some {s s₁ s' : St} (h : some s₁ = some s') (hs : Step s s₁) : Step s s' :=
  Option.some.inj h ▸ hs

/-- The guards shared by the five ways of handing over a call. `hs` is `step s a = some s'` for a
`queue…` action after reduction (the model's `let s := { s with handed := … }` is gone, so `go`, the
state when the call is let in, already has `handed ++ [c]` inside); `ctx`, inferred from `hs`, is what
happens when the call's context has ended already. -/
theorem handOver_cases {s s' : St} {c : Nat} {ctx : Option St} {go : St}
    (hs : (if s.handed.contains c then none
      else if s.ctxDone.contains c then ctx
      else if s.done then
        some { s with handed := s.handed ++ [c], delivered := s.delivered ++ [Dlv.mk c .connErr none] }
      else some go) = some s')
    (hctx : c ∉ s.handed → c ∈ s.ctxDone → ctx = some s' → Step s s')
    (hgo : c ∉ s.handed → c ∉ s.ctxDone → s.done = false → Step s go) : Step s s' := by
  split at hs
  · cases hs
  · rename_i hc
    have hc : c ∉ s.handed := by simpa using hc
    split at hs
    · rename_i hx
      exact hctx hc (by simpa using hx) hs
    · rename_i hx
      have hx : c ∉ s.ctxDone := by simpa using hx
      split at hs
      · rename_i hd
        exact .of_some hs (.refused c hc hx hd)
      · rename_i hd
        exact .of_some hs (hgo hc hx (by simpa using hd))

theorem gaveUp_cases {s s' : St} {c : Nat} (hc : c ∉ s.handed) (hx : c ∈ s.ctxDone)
    (hs : (if s.done then none
      else some { s with handed := s.handed ++ [c], dropped := s.dropped ++ [c] }) = some s') :
    Step s s' := by
  split at hs
  · cases hs
  · rename_i hd
    exact .of_some hs (.gaveUp c hc hx (by simpa using hd))

theorem step_timeout_some {s s' : St} (hs : step s .timeout = some s') :
    s.reader = .reading ∧ s.armed = true ∧
    readerFail s = s' := by
  simp only [step] at hs
  split at hs
  · cases hs
  · rename_i hen
    simp only [Bool.or_eq_true, not_or] at hen
    exact ⟨by simpa using hen.1, by simpa using hen.2, Option.some.inj hs⟩

theorem step_cases {s s' : St} {a : Act} (hs : step s a = some s') : Step s s' := by
  cases a with
  | queueBatched c =>
    exact handOver_cases (ctx := none) hs (fun _ _ e => by cases e)
      (fun hc hx hd => .batched c s.poison hc hx hd)
  | queueBatchedUnsendable c =>
    exact handOver_cases (ctx := none) hs (fun _ _ e => by cases e)
      (fun hc hx hd => .batched c (s.poison ++ [c]) hc hx hd)
  | queueDirect c =>
    exact handOver_cases hs gaveUp_cases (fun hc hx hd => .direct c hc hx hd)
  | queueDirectClosing c =>
    exact handOver_cases hs gaveUp_cases (fun hc hx hd => .directClosing c hc hx hd)
  | queueUnsendable c =>
    exact handOver_cases hs gaveUp_cases (fun hc hx hd => .unsendable c hc hx hd)
  | cancel c =>
    simp only [step] at hs
    split at hs
    · cases hs
    · rename_i hx
      exact .of_some hs (.cancel c (by simpa using hx))
  | write w last r =>
    simp only [step] at hs
    split at hs
    · cases hs
    · rename_i henv
      split at hs
      · cases hs
      · rename_i x hf
        cases r with
        | err => exact .of_some hs (.writeErr w x hf)
        | ok =>
          -- a `Write` that succeeds finds the connection alive (environment guard of `step`)
          have hd : s.done = false := by simpa using henv
          simp only at hs
          split at hs
          · exact .of_some hs .wrotePart
          · split at hs
            · rename_i hm
              exact .of_some hs (.wroteBusy w x hf hd hm)
            · rename_i hm
              exact .of_some hs (.wrote w x hf hd (by simpa using hm))
  | arm w r =>
    simp only [step] at hs
    split at hs
    · cases hs
    · rename_i henv
      split at hs
      · cases hs
      · rename_i x hf
        cases r with
        | ok =>
          exact .of_some hs (.armed w x hf (by simpa using henv))
        | err => exact .of_some hs (.armErr w x hf)
  | read id f =>
    simp only [step] at hs
    split at hs
    · cases hs
    · rename_i hr
      have hr : s.reader = .reading := by simpa using hr
      split at hs
      · exact .of_some hs (.readerFails hr)
      · rename_i hf
        split at hs
        · exact .of_some hs (.readerFails hr)
        · rename_i it hl
          split at hs
          · rename_i hm
            exact .of_some hs (.readBusy id it f hr (fun e => hf e) hl hm)
          · rename_i hm
            exact .of_some hs (.read id it f hr (fun e => hf e) hl (by simpa using hm))
  | readErr =>
    simp only [step] at hs
    split at hs
    · cases hs
    · rename_i hr
      exact .of_some hs (.readerFails (by simpa using hr))
  | timeout =>
    obtain ⟨hr, _, rfl⟩ := step_timeout_some hs
    exact .readerFails hr
  | clear r =>
    simp only [step] at hs
    split at hs
    · rename_i id it f hr
      split at hs
      · exact .of_some hs (.cleared id it f hr)
      · exact .of_some hs (.clearErr id it f hr)
    · cases hs
  | close =>
    simp only [step] at hs
    exact .of_some hs .closed

theorem step_read_some {s s' : St} {id : Nat} {f : Frame} {it : Item}
    (hs : step s (.read id f) = some s') (hf : f ≠ .badHeader) (hl : lookupSent s id = some it) :
    s.reader = .reading ∧
    (if mHeld (eraseSent s id) then
        { eraseSent s id with reader := .downWait id it f,
                              mWait := (eraseSent s id).mWait ++ [.reader] }
      else readerAtM (eraseSent s id) id it f) = s' := by
  simp only [step] at hs
  split at hs
  · cases hs
  · rename_i hr
    refine ⟨by simpa using hr, ?_⟩
    -- (`simp` closes the `badHeader` alternative with `hf` from the context)
    simp only [hl] at hs
    split at hs
    · rename_i hm; rw [if_pos hm]; exact Option.some.inj hs
    · rename_i hm; rw [if_neg hm]; exact Option.some.inj hs

theorem reachable_ind {P : St → Prop} {q : Nat} (h0 : P (init q))
    (hstep : ∀ {s s'}, P s → Step s s' → P s') {s : St} (h : Reachable q s) : P s := by
  obtain ⟨as, hr⟩ := h
  generalize init q = s0 at h0 hr
  induction as generalizing s0 with
  | nil => simp only [run] at hr; injection hr with hr; exact hr ▸ h0
  | cons a as ih =>
    simp only [run] at hr
    split at hr
    · rename_i s1 hs; exact ih s1 (hstep h0 (step_cases hs)) hr
    · cases hr

theorem run_append (s : St) (as bs : List Act) :
    run s (as ++ bs) = (run s as).bind (fun s' => run s' bs) := by
  induction as generalizing s with
  | nil => rfl
  | cons a as ih =>
    simp only [List.cons_append, run]
    cases step s a with
    | none => rfl
    | some s1 => exact ih s1

theorem reachable_step {q : Nat} {s s' : St} {a : Act} (h : Reachable q s)
    (hs : step s a = some s') : Reachable q s' := by
  obtain ⟨as, hr⟩ := h
  refine ⟨as ++ [a], ?_⟩
  rw [run_append, hr]
  simp [run, hs]

theorem of_quiescent {s : St} (hq : quiescent s = true) :
    s.sends = [] ∧ s.offered = [] ∧ (s.reader = .reading ∨ s.reader = .exited) := by
  simp only [quiescent, Bool.and_eq_true, Bool.or_eq_true, beq_iff_eq, List.isEmpty_iff] at hq
  exact ⟨hq.1.1, hq.1.2, hq.2⟩

/-- What only grows from `s` to a later state `s'`: the id counter, `done`, the log `wroteAs`; and
the registered items of `s'` are those of `s` or newer than its counter (C02 `fresh_wire_id`). -/
structure Ext (s s' : St) : Prop where
  nextId : s.nextId ≤ s'.nextId
  done : s.done = true → s'.done = true
  wrote : ∀ p ∈ s.wroteAs, p ∈ s'.wroteAs
  sentNew : ∀ p ∈ s'.sent, p ∈ s.sent ∨ s.nextId < p.1

theorem Ext.refl (s : St) : Ext s s := ⟨Nat.le_refl _, fun h => h, fun _ h => h, fun _ h => Or.inl h⟩

theorem ext_deliverItem {a s : St} (it : Item) (r : Res) (src : Option Nat) (h : Ext a s) :
    Ext a (deliverItem s it r src) := { h with }

theorem ext_eraseSent {a s : St} (id : Nat) (h : Ext a s) : Ext a (eraseSent s id) :=
  ⟨h.nextId, h.done, h.wrote, fun p hp => h.sentNew p (List.mem_filter.1 hp).1⟩

theorem ext_setPhase {a s : St} (w : Who) (p : Phase) (h : Ext a s) : Ext a (setPhase s w p) :=
  { h with }

theorem ext_failConn {a s : St} (h : Ext a s) : Ext a (failConn s) := by
  rw [failConn_eq]
  split
  · exact h
  · exact ⟨h.nextId, fun _ => rfl, h.wrote, fun _ hp => by cases hp⟩

theorem ext_sendFailed {a s : St} (snd : Snd) (h : Ext a s) : Ext a (sendFailed s snd) :=
  sendFailed_cases (Q := Ext a) s snd
    (fun _ _ => ext_deliverItem _ _ _ (ext_eraseSent _ (ext_failConn h))) (fun _ => ext_failConn h)

theorem ext_regSend {a s : St} (w : Who) (it : Item) (h : Ext a s) : Ext a (regSend s w it) :=
  ⟨Nat.le_succ_of_le h.nextId, h.done, fun p hp => List.mem_append_left _ (h.wrote p hp), fun p hp => by
    rcases List.mem_append.1 hp with hp | hp
    · exact h.sentNew p hp
    · simp only [List.mem_singleton] at hp; subst hp
      exact Or.inr (Nat.lt_succ_of_le h.nextId)⟩

theorem ext_senderAddN {a s : St} (n : Nat) (w : Who) (h : Ext a s) : Ext a (senderAddN s n w) :=
  { h with }

theorem ext_startSend {a s : St} (w : Who) (it : Item) (h : Ext a s) : Ext a (startSend s w it) := by
  rw [startSend_eq]
  split
  · exact { ext_regSend w it h with }
  · exact ext_senderAddN _ w (ext_regSend w it h)

theorem ext_writerLoop {a s : St} (h : Ext a s) : Ext a (writerLoop s) := by
  refine writerLoop_ind (Q := Ext a) s h ?_ ?_ ?_
  · intro s' h; exact { h with }
  · intro s' h _ _; exact ⟨Nat.le_succ_of_le h.nextId, h.done, h.wrote, h.sentNew⟩
  · intro s' h _ _; exact ext_startSend _ _ { h with }

theorem ext_finishSend {a s : St} (w : Who) (h : Ext a s) : Ext a (finishSend s w) :=
  finishSend_cases (Q := Ext a) s w (fun _ => ext_writerLoop { h with }) (fun _ => { h with })

theorem ext_releaseWriteM {a s : St} (h : Ext a s) : Ext a (releaseWriteM s) :=
  releaseWriteM_cases (Q := Ext a) s (fun _ _ => { h with }) { h with }

theorem ext_readerFail {a s : St} (h : Ext a s) : Ext a (readerFail s) :=
  readerFail_eq s ▸ ext_failConn (s := { s with reader := .exited }) { h with }

theorem ext_finishFrame {a s : St} (id : Nat) (it : Item) (f : Frame) (h : Ext a s) :
    Ext a (finishFrame s id it f) :=
  finishFrame_cases (Q := Ext a) s id it f (fun _ => { h with }) (fun _ => h)
    (fun _ => { h with })
    (fun _ => ext_readerFail { h with })

theorem ext_senderAtM {a s : St} (w : Who) (h : Ext a s) : Ext a (senderAtM s w) :=
  senderAtM_cases (Q := Ext a) s w (fun _ => ext_finishSend w h) (fun _ => ext_setPhase w _ h)

theorem ext_readerAtM {a s : St} (id : Nat) (it : Item) (f : Frame) (h : Ext a s) :
    Ext a (readerAtM s id it f) :=
  readerAtM_cases (Q := Ext a) s id it f (fun _ => { h with })
    (fun _ => ext_finishFrame _ _ _ { h with })

theorem ext_releaseM {a s : St} (h : Ext a s) : Ext a (releaseM s) := by
  refine wakeM_ind (Q := Ext a) _ s h ?_ ?_ ?_ ?_
  · intro s w rest h _ _ _; exact ext_senderAddN _ w { h with }
  · intro s w rest h _ _ _; exact ext_senderAtM w { h with }
  · intro s id it f rest h _ _ _; exact ext_readerAtM id it f { h with }
  · intro s e rest h _ _ _; exact { h with }

theorem ext_step {s s' : St} (hs : Step s s') : Ext s s' := by
  have h := Ext.refl s
  cases hs with
  | refused | gaveUp | cancel => exact { h with }
  | wrotePart => exact h
  | batched => exact ext_writerLoop { h with }
  | direct => exact ext_startSend _ _ { h with }
  | directClosing => exact ext_startSend _ _ (ext_failConn { h with })
  | unsendable => exact ⟨Nat.le_succ _, h.done, h.wrote, h.sentNew⟩
  | writeErr w x => exact ext_finishSend w (ext_sendFailed x (ext_releaseWriteM h))
  | wroteBusy w => exact { ext_setPhase w .armWait (ext_releaseWriteM h) with }
  | wrote w => exact ext_senderAtM w (ext_releaseWriteM h)
  | armed w => exact ext_releaseM (ext_finishSend w { h with })
  | armErr w x => exact ext_releaseM (ext_finishSend w (ext_sendFailed x h))
  | readerFails => exact ext_readerFail h
  | readBusy id => exact { ext_eraseSent id h with }
  | read id it f => exact ext_readerAtM id it f (ext_eraseSent id h)
  | cleared id it f => exact ext_releaseM (ext_finishFrame id it f { h with })
  | clearErr id it => exact ext_releaseM (ext_readerFail (ext_deliverItem it _ _ h))
  | closed => exact ext_failConn h

/-- From `a` to `s` only senders have moved: the reader and `done` are as they were. -/
structure Sending (a s : St) : Prop where
  reader : s.reader = a.reader
  done : s.done = a.done

theorem Sending.held {a s : St} (h : Sending a s) : s.reader.held = a.reader.held :=
  congrArg Reader.held h.reader

theorem Sending.after {a b c : St} (h₂ : Sending b c) (h₁ : Sending a b) : Sending a c :=
  ⟨h₂.reader.trans h₁.reader, h₂.done.trans h₁.done⟩

theorem reader_senderAdd (s : St) (w : Who) : (senderAdd s w).reader = s.reader := rfl

theorem reader_setPhase (s : St) (w : Who) (p : Phase) : (setPhase s w p).reader = s.reader := rfl

theorem sending_startSend (s : St) (w : Who) (it : Item) : Sending s (startSend s w it) := by
  rw [startSend_eq]
  split <;> exact ⟨rfl, rfl⟩

theorem sending_writerLoop (s : St) : Sending s (writerLoop s) :=
  writerLoop_ind (Q := Sending s) s ⟨rfl, rfl⟩ (fun _ h => ⟨h.reader, h.done⟩)
    (fun _ h _ _ => ⟨h.reader, h.done⟩)
    (fun s' h _ _ =>
      (sending_startSend { wlTaken s' with writerBusy := true } _ _).after ⟨h.reader, h.done⟩)

theorem sending_finishSend (s : St) (w : Who) : Sending s (finishSend s w) :=
  finishSend_cases (Q := Sending s) s w (fun _ => (sending_writerLoop _).after ⟨rfl, rfl⟩)
    (fun _ => ⟨rfl, rfl⟩)

theorem sending_releaseWriteM (s : St) : Sending s (releaseWriteM s) :=
  releaseWriteM_cases (Q := Sending s) s (fun _ _ => ⟨rfl, rfl⟩) ⟨rfl, rfl⟩

theorem reader_releaseWriteM' (s : St) : (releaseWriteM s).reader = s.reader :=
  (sending_releaseWriteM s).reader

theorem sending_senderAtM (s : St) (w : Who) : Sending s (senderAtM s w) :=
  senderAtM_cases (Q := Sending s) s w (fun _ => sending_finishSend s w) (fun _ => ⟨rfl, rfl⟩)

end GV.Conn
