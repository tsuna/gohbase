import GohbaseVerif.Lemmas.Routing
import GohbaseVerif.Lemmas.Put
import GohbaseVerif.Props.C08
/-!
# C01 — Requests are routed to the region that owns the row key

`Model/Routing.lean` on top of the cache model: `getRegionFromCache` (search key, `Seek` + `Prev`,
table check, stop-key check), the acceptance checks of `metaLookup`, and the
`getRegionForRpc`/`findRegion` loop against `Env.Meta`.

Domain: a good cache (`Good`, C08's invariant — established by `reachable_good`), a looked-up
table name without `','` and short enough for `createRegionSearchKey` (`|t| + 3 ≤ 32767`,
otherwise the Go code panics, cutting the key to a negative length: `long_table_panics`), any row
key whatsoever.
-/
namespace GV.Routing
open GV GV.RegionName GV.Cache

/-- The cache lookup never panics (no exact match of the search key, no comparison panic). -/
theorem cache_lookup_total {l : List Region} (hg : GoodL l) {t : Bytes} (ht : comma ∉ t)
    (hlen : t.length + 3 ≤ 32767) (k : Bytes) : ∃ o, getRegionFromCache l t k = .ok o := by
  obtain ⟨p, _, _, h⟩ := getRegionFromCache_eq hg.wf hg.sorted ht hlen k
  exact ⟨_, h⟩

/-- **Cache hit ⇔ owner.**  For *every* row key (including keys longer than the `MaxInt16`
truncation of the search key): the cache lookup returns `r` iff `r` is cached, belongs to the
requested table and its `[start, stop)` contains the key. -/
theorem cache_hit_iff_owner {l : List Region} (hg : GoodL l) {t : Bytes} (ht : comma ∉ t)
    (hlen : t.length + 3 ≤ 32767) (k : Bytes) (r : Region) :
    getRegionFromCache l t k = .ok (some r) ↔ r ∈ l ∧ r.fq = t ∧ r.contains k := by
  obtain ⟨p, hb, ha, hget⟩ := getRegionFromCache_eq hg.wf hg.sorted ht hlen k
  rw [hget, Outcome.ok.injEq]
  refine last_accepted_iff hg (List.take_sublist p l) hb (fun x hx _ hB => ?_) r
  exact ((mem_take_or_drop p).mp hx).resolve_right fun h => ha x h hB

/-- A key outside every cached range of its table is a miss — never the neighbouring region,
never a region of a same-prefixed table: the request goes to `hbase:meta`. -/
theorem cache_miss_outside {l : List Region} (hg : GoodL l) {t : Bytes} (ht : comma ∉ t)
    (hlen : t.length + 3 ≤ 32767) (k : Bytes)
    (hout : ∀ x ∈ l, x.fq = t → ¬ x.contains k) : getRegionFromCache l t k = .ok none := by
  obtain ⟨o, ho⟩ := cache_lookup_total hg ht hlen k
  cases o with
  | none => exact ho
  | some r =>
    obtain ⟨h1, h2, h3⟩ := (cache_hit_iff_owner hg ht hlen k r).mp ho
    exact absurd h3 (hout r h1 h2)

/-- A cached region is only ever returned for its own table (`t` vs `t2`, `t` vs `ns:t`). -/
theorem cache_hit_same_table {l : List Region} (hg : GoodL l) {t : Bytes} (ht : comma ∉ t)
    (hlen : t.length + 3 ≤ 32767) (k : Bytes) (r : Region)
    (h : getRegionFromCache l t k = .ok (some r)) : r.fq = t :=
  ((cache_hit_iff_owner hg ht hlen k r).mp h).2.1

/-- Out of the domain: a table name too long for a meta row makes `createRegionSearchKey` panic. -/
theorem long_table_panics (l : List Region) (t k : Bytes) (h : 32767 < t.length + 3) :
    (getRegionFromCache l t k).isFault = true := by
  have : Gen.Wire.searchKeyMax < t.length + Gen.Wire.searchKeySlack := by
    simpa [Gen.Wire.searchKeyMax, Gen.Wire.searchKeySlack] using h
  simp [getRegionFromCache, searchKeyO, this, Outcome.isFault]

/-- `metaLookup` only accepts a row of the requested table whose stop key lies beyond the key.
(It does not check `start ≤ key`: that part is `Env.Meta`'s — `meta_returns_owner`.) -/
theorem meta_accepts_only_covering (t k : Bytes) (m : Region) (h : metaAccepts t k m = true) :
    m.fq = t ∧ (m.stop = [] ∨ bcmp k m.stop = .lt) :=
  (metaAccepts_iff t k m).mp h

theorem meta_accepts_owner {t k : Bytes} {o : Region} (hfq : o.fq = t) (hk : o.contains k) :
    metaAccepts t k o = true :=
  (metaAccepts_iff t k o).mpr ⟨hfq, hk.2⟩

/-- With `Env.Meta` (greatest row ≤ the search key among the table's regions) over a good layout,
the meta answer for a key that has an owner is that owner, and `metaLookup` accepts it. -/
theorem meta_returns_owner {L : List Region} (hg : GoodL L) {t k : Bytes} (ht : comma ∉ t)
    {o : Region} (ho : o ∈ L) (hfq : o.fq = t) (hk : o.contains k) :
    metaRow L t k = some o ∧ metaAccepts t k o = true :=
  Option.filter_eq_some_iff.mp ((metaRow_accepted_iff hg ht k o).mpr ⟨ho, hfq, hk⟩)

theorem owner_unique {L : List Region} (hg : GoodL L) {a b : Region} (ha : a ∈ L) (hb : b ∈ L)
    (hfq : a.fq = b.fq) {k : Bytes} (hka : a.contains k) (hkb : b.contains k) : a = b :=
  Decidable.by_contra fun e => hg.no_shared_key ha hb e hfq ⟨k, hka, hkb⟩

/-- One round suffices when `k` has an owner.  `tries + 1` is what is left of `maxFindRegionTries`,
`n` the meta lookups made so far, `m` those this call adds. -/
theorem routeN_owner {L : List Region} (hL : GoodL L) {c : Cache} (hc : Good c)
    (hsub : ∀ x ∈ c.regions, x ∈ L) {t k : Bytes} (ht : comma ∉ t) (hlen : t.length + 3 ≤ 32767)
    {o : Region} (ho : o ∈ L) (hfq : o.fq = t) (hk : o.contains k) (tries n : Nat) :
    ∃ c' m, routeN L (tries + 1) c t k n = .ok (some o, c', n + m) ∧ m ≤ 1 ∧ Good c' ∧
      (∀ x ∈ c'.regions, x ∈ L) ∧ (m = 0 → c' = c ∧ o ∈ c.regions) ∧
      (∀ x, x ∈ c'.dead ↔ x ∈ c.dead) := by
  by_cases hmem : o ∈ c.regions
  · have hres := (cache_hit_iff_owner hc ht hlen k o).mpr ⟨hmem, hfq, hk⟩
    exact ⟨c, 0, routeN_hit hres tries n, Nat.zero_le _, hc, hsub, fun _ => ⟨rfl, hmem⟩, fun _ => Iff.rfl⟩
  · -- the layout is good, so `o` shares neither a key nor its name with what is cached
    have hres := cache_miss_outside hc ht hlen k fun x hx hxfq hxk =>
      hmem (owner_unique hL (hsub x hx) ho (hxfq.trans hfq.symm) hxk hk ▸ hx)
    obtain ⟨hm, hacc⟩ := meta_returns_owner hL ht ho hfq hk
    have hname : ∀ x ∈ c.regions, x.name ≠ o.name := fun x hx e =>
      hmem (sorted_name_inj hL.wf hL.sorted (hsub x hx) ho e ▸ hx)
    have hnov : ∀ x ∈ c.regions, overlap x o = false := fun x hx =>
      hL.overlap_eq_false (hsub x hx) ho (fun e => hmem (e ▸ hx))
    obtain ⟨c', hp, hg', hmem', hdead⟩ := put_disjoint hc (hL.wf o ho) hname hnov
    refine ⟨c', 1, routeN_inserted hres hm hacc hp tries n, Nat.le_refl _, hg', fun x hx => ?_,
      fun h => absurd h Nat.one_ne_zero, hdead⟩
    rcases (hmem' x).mp hx with e | h
    · rw [e]; exact ho
    · exact hsub x h

/-- Whatever number of tries is left and whatever `n` counts so far: an answer is an owner.  (If the
meta row is an owner, `routeN_owner` says the answer is that row: `put` need not be looked into.) -/
theorem routeN_sound {L : List Region} (hL : GoodL L) {c : Cache} (hc : Good c)
    (hsub : ∀ x ∈ c.regions, x ∈ L) {t k : Bytes} (ht : comma ∉ t) (hlen : t.length + 3 ≤ 32767)
    {tries n : Nat} {r : Region} {c' : Cache} {n' : Nat}
    (h : routeN L tries c t k n = .ok (some r, c', n')) : r ∈ L ∧ r.fq = t ∧ r.contains k := by
  cases tries with
  | zero => cases h
  | succ tries =>
    have key : ∀ o, o ∈ L → o.fq = t → o.contains k → r ∈ L ∧ r.fq = t ∧ r.contains k := by
      intro o ho hfq hk
      obtain ⟨c'', m, hroute, _⟩ := routeN_owner hL hc hsub ht hlen ho hfq hk tries n
      rw [hroute] at h; cases h
      exact ⟨ho, hfq, hk⟩
    obtain ⟨res, hres⟩ := cache_lookup_total hc ht hlen k
    cases res with
    | some r' =>
      obtain ⟨h1, h2, h3⟩ := (cache_hit_iff_owner hc ht hlen k r').mp hres
      exact key r' (hsub r' h1) h2 h3
    | none =>
      cases hm : metaRow L t k with
      | none => rw [routeN_no_row hres hm] at h; cases h
      | some m =>
        obtain ⟨m1, m2, m3⟩ := metaRow_sound hL.wf ht hm
        cases hacc : metaAccepts t k m with
        | true => exact key m m1 m2 ⟨m3, (meta_accepts_only_covering t k m hacc).2⟩
        | false => rw [routeN_rejected hres hm hacc] at h; cases h

/-- **Routing is correct** over a static layout: whatever part of the layout is already cached
(any first-touch order), a request for `(t, k)` whose key has an owner `o` in the layout is
addressed to `o` — from the cache without a meta lookup, or after exactly one meta lookup —
the cache stays a good subset of the layout, and no region is marked dead. -/
theorem route_correct {L : List Region} (hL : GoodL L) {c : Cache} (hc : Good c)
    (hsub : ∀ x ∈ c.regions, x ∈ L) {t k : Bytes} (ht : comma ∉ t) (hlen : t.length + 3 ≤ 32767)
    {o : Region} (ho : o ∈ L) (hfq : o.fq = t) (hk : o.contains k) :
    ∃ c' n, route L c t k = .ok (some o, c', n) ∧ n ≤ 1 ∧ Good c' ∧ (∀ x ∈ c'.regions, x ∈ L) ∧
      (n = 0 → c' = c ∧ o ∈ c.regions) ∧ (∀ x, x ∈ c'.dead ↔ x ∈ c.dead) := by
  -- all that is needed of `maxFindRegionTries` is that there is a first try
  obtain ⟨tries, htries⟩ := Nat.exists_eq_succ_of_ne_zero (by decide : Gen.Wire.maxFindRegionTries ≠ 0)
  obtain ⟨c', m, h⟩ := routeN_owner hL hc hsub ht hlen ho hfq hk tries 0
  rw [Nat.zero_add] at h
  exact ⟨c', m, by rw [route, htries]; exact h⟩

/-- Whatever `route` answers with is an owner: of the requested table, containing the key, in the
layout — a key that no region of the layout owns (a hole, an unknown or merely same-prefixed
table) is never sent to a neighbouring region or to another table. -/
theorem route_sound {L : List Region} (hL : GoodL L) {c : Cache} (hc : Good c)
    (hsub : ∀ x ∈ c.regions, x ∈ L) {t k : Bytes} (ht : comma ∉ t) (hlen : t.length + 3 ≤ 32767)
    {r : Region} {c' : Cache} {n : Nat} (h : route L c t k = .ok (some r, c', n)) :
    r ∈ L ∧ r.fq = t ∧ r.contains k :=
  routeN_sound hL hc hsub ht hlen h

/-- `l` is a run of contiguous regions starting at `s` and ending with an unbounded region. -/
def chainFrom (s : Bytes) : List Region → Prop
  | [] => False
  | [r] => r.start = s ∧ r.stop = []
  | r :: r' :: rest => r.start = s ∧ chainFrom r.stop (r' :: rest)

theorem chain_covers {l : List Region} {s k : Bytes} (h : chainFrom s l) (hs : bcmp s k ≠ .gt) :
    ∃ r ∈ l, r.contains k := by
  induction l generalizing s with
  | nil => exact absurd h (by simp [chainFrom])
  | cons r rest ih =>
    cases rest with
    | nil =>
      obtain ⟨h1, h2⟩ := h
      exact ⟨r, by simp, by rw [← h1] at hs; exact ⟨hs, .inl h2⟩⟩
    | cons r' rest' =>
      obtain ⟨h1, h2⟩ := h
      rcases bcmp_le_total r.stop k with hle | hlt
      · obtain ⟨x, hx, hxk⟩ := ih h2 hle
        exact ⟨x, by simp [hx], hxk⟩
      · exact ⟨r, by simp, by rw [← h1] at hs; exact ⟨hs, .inr hlt⟩⟩

/-- **C01 for contiguous layouts.** If table `t`'s regions in the layout contain a contiguous
chain from the empty start key to the empty stop key, then *every* row key (any bytes) is
routed to a region of `t` that contains it, with at most one meta lookup. -/
theorem route_correct_contiguous {L : List Region} (hL : GoodL L) {c : Cache} (hc : Good c)
    (hsub : ∀ x ∈ c.regions, x ∈ L) {t : Bytes} (ht : comma ∉ t) (hlen : t.length + 3 ≤ 32767)
    {chain : List Region} (hch : chainFrom [] chain) (hin : ∀ x ∈ chain, x ∈ L ∧ x.fq = t)
    (k : Bytes) :
    ∃ o c' n, route L c t k = .ok (some o, c', n) ∧ o ∈ L ∧ o.fq = t ∧ o.contains k ∧ n ≤ 1 ∧
      Good c' ∧ (∀ x ∈ c'.regions, x ∈ L) := by
  obtain ⟨o, ho, hk⟩ := chain_covers hch (bcmp_nil_le k)
  obtain ⟨hoL, hfq⟩ := hin o ho
  obtain ⟨c', n, hr, hn, hg', hsub', _, _⟩ := route_correct hL hc hsub ht hlen hoL hfq hk
  exact ⟨o, c', n, hr, hoL, hfq, hk, hn, hg', hsub'⟩

/-! ### Non-vacuity: tables `t`, `t2`, `ns:t` side by side

`rT` = `t,,1.x` with range `[∅, b)`, `rT'` = `t,b,2.x` with `[b, ∞)`, `rT2` = `t2,,1.x` and
`rNs` = `ns:t,,1.x` (namespace `ns`), both unbounded. -/

def rT : Region := ⟨[], [0x74], [], [0x62], [0x74, 0x2c, 0x2c, 0x31, 0x2e, 0x78], 1⟩
def rT' : Region := ⟨[], [0x74], [0x62], [], [0x74, 0x2c, 0x62, 0x2c, 0x32, 0x2e, 0x78], 2⟩
def rT2 : Region := ⟨[], [0x74, 0x32], [], [], [0x74, 0x32, 0x2c, 0x2c, 0x31, 0x2e, 0x78], 1⟩
def rNs : Region := ⟨[0x6e, 0x73], [0x74], [], [], [0x6e, 0x73, 0x3a, 0x74, 0x2c, 0x2c, 0x31, 0x2e, 0x78], 1⟩

/-- Key `b` of table `t` is served by `t,b,…`; key `a` by `t,,…`; the lookup for table `t2`
never returns a region of `t`; a table that is not cached misses. -/
example : getRegionFromCache [rNs, rT, rT', rT2] [0x74] [0x62] = .ok (some rT') ∧
    getRegionFromCache [rNs, rT, rT', rT2] [0x74] [0x61, 0xff] = .ok (some rT) ∧
    getRegionFromCache [rNs, rT, rT', rT2] [0x74, 0x32] [0x7a] = .ok (some rT2) ∧
    getRegionFromCache [rNs, rT, rT'] [0x74, 0x32] [0x7a] = .ok none ∧
    getRegionFromCache [rT, rT', rT2] [0x6e, 0x73, 0x3a, 0x74] [] = .ok none := by
  refine ⟨?_, ?_, ?_, ?_, ?_⟩ <;> decide +kernel

theorem rT_wf : rT.WF := (wfB_iff_WF _).mp (by decide +kernel)

theorem rT'_wf : rT'.WF := (wfB_iff_WF _).mp (by decide +kernel)

/-- A two-region contiguous layout of table `t` satisfies every hypothesis of
`route_correct_contiguous` … -/
theorem layout2_good : GoodL [rT, rT'] ∧ chainFrom [] [rT, rT'] := by
  exact ⟨⟨List.pairwise_pair.mpr (by unfold nameLt; decide),
    List.forall_mem_cons.mpr ⟨rT_wf, List.forall_mem_cons.mpr ⟨rT'_wf, nofun⟩⟩,
    List.pairwise_pair.mpr (by decide)⟩, rfl, rfl, rfl⟩

/-- … and the model really routes: first touch of key `b` asks meta once and caches `t,b,…`;
the boundary key goes to the right-hand region, the key just below it to the left-hand one. -/
example : route [rT, rT'] Cache.empty [0x74] [0x62] = .ok (some rT', ⟨[rT'], []⟩, 1) ∧
    route [rT, rT'] ⟨[rT'], []⟩ [0x74] [0x61, 0xff, 0xff] = .ok (some rT, ⟨[rT, rT'], []⟩, 1) ∧
    route [rT, rT'] ⟨[rT, rT'], []⟩ [0x74] [0x62, 0x00] = .ok (some rT', ⟨[rT, rT'], []⟩, 0) := by
  refine ⟨?_, ?_, ?_⟩ <;> decide +kernel

end GV.Routing
