import GohbaseVerif.Lemmas.ScannerStream
import GohbaseVerif.Lemmas.ScannerGeom
/-!
The region walk against a conforming server: if the server accepts the conversation the walk
produces (`Srv.run`), the fragments it delivered are a fragmentation of exactly the rows of the
range, in scan order (`walk_chunk`); for a complete run of a fresh scanner these are the rows of
`inRange` (`conforming_walk`).
-/
namespace GV.Scanner
open GV

/-- The close request that follows the response `r` in the same round of `fetch`, if any. -/
def doneEx (sc : Scan) (s : St) (g : Region) (r : Resp) : List Exch :=
  let s2 := update sc (logged sc s (.resp g r)) r g
  if isDone sc s2 r g then closeEx sc s2 else []

/-- What one round of `fetch` on the response `(g, r)` logs, oldest first. -/
def respEx (sc : Scan) (s : St) (g : Region) (r : Resp) : List Exch :=
  ⟨mkReq sc s, some (.resp g r)⟩ :: doneEx sc s g r

theorem onResp_log (sc : Scan) (s : St) (g : Region) (r : Resp) (hc : s.closed = false) :
    (onResp sc s g r).log.reverse = s.log.reverse ++ respEx sc s g r := by
  rw [onResp_eq]
  unfold respEx doneEx
  simp only []
  split
  · rw [close_log _ _ (by rw [update_closed]; exact hc), update_log]
    simp [logged, closeEx_reverse]
  · rw [update_log]
    simp [logged]

/-- What a round of `fetch` that ends with the RPC error `c` logs, oldest first. -/
def errEx (sc : Scan) (s : St) (c : String) : List Exch :=
  ⟨mkReq sc s, some (.err c)⟩ :: closeEx sc (logged sc s (.err c))

theorem onErr_log (sc : Scan) (s : St) (c : String) (hc : s.closed = false) :
    (onErr sc s (some (.err c))).log.reverse = s.log.reverse ++ errEx sc s c := by
  rw [onErr_eq, close_log sc (logged sc s (.err c)) hc]
  simp [errEx, logged, closeEx_reverse]

/-- The exchanges `pull` logs, oldest first (`pull_log`). -/
def pullEx (sc : Scan) : List Reply → St → List Exch
  | [], s => if s.closed then [] else errEx sc s "starved"
  | rp :: rest, s =>
    if s.closed then [] else
    match rp with
    | .err c => errEx sc s c
    | .resp g r => respEx sc s g r ++ pullEx sc rest (onResp sc s g r)

theorem pull_log (sc : Scan) (R : List Reply) (s : St) :
    (pull sc R s).fin.log.reverse = s.log.reverse ++ pullEx sc R s := by
  fun_induction pull sc R s with
  | case1 _ h | case3 _ _ _ h => simp [pullEx, h]
  | case2 s h | case4 _ s h =>
    simp only [pullEx, h, Bool.false_eq_true, if_false]
    exact onErr_log sc s _ (by simpa using h)
  | case5 _ s h g r _ ih =>
    simp only [pullEx, h, Bool.false_eq_true, if_false]
    rw [ih, onResp_log sc s g r (by simpa using h), List.append_assoc]

theorem srvRun_append (table : List Row) (splits : List Bytes) (sc : Scan) (v : Srv) (a b : List Exch) :
    Srv.run table splits sc v (a ++ b) =
      (Srv.run table splits sc v a).bind (fun v' => Srv.run table splits sc v' b) := by
  induction a generalizing v with
  | nil => rfl
  | cons e es ih =>
    simp only [List.cons_append, Srv.run]
    cases Srv.step table splits sc v e with
    | none => rfl
    | some v' => exact ih v'

theorem srvStep_err (table : List Row) (splits : List Bytes) (sc : Scan) (v : Srv) (q : Req) (c : String) :
    Srv.step table splits sc v ⟨q, some (.err c)⟩ = none := by
  unfold Srv.step
  cases q.kind <;> rfl

/-- The scanner after one round of `fetch` on the response `r`, for a scan without `CloseScanner` whose
region scanner (current, or announced by `r`) is `id`; a close request goes out only when `curId` is
still set at the end, that is with `moreInRegion`. -/
theorem onResp_fields (sc : Scan) (s : St) (g : Region) (r : Resp) (id : Nat)
    (hcl : sc.closing = false) (hc : s.closed = false)
    (hcur : s.curId.or r.scannerId = some id) :
    (onResp sc s g r).closed = (!r.moreResults || (!r.moreInRegion && geoDone sc g)) ∧
    (onResp sc s g r).curId = (if r.moreInRegion && r.moreResults then some id else none) ∧
    (onResp sc s g r).startRow = (if r.moreInRegion then s.startRow else nextStart sc g) ∧
    doneEx sc s g r = (if r.moreInRegion && !r.moreResults then [⟨closeReq s id, none⟩] else []) := by
  have hs2 : update sc (logged sc s (.resp g r)) r g =
      { logged sc s (.resp g r) with
        curId := if r.moreInRegion then some id else none
        startRow := if r.moreInRegion then s.startRow else nextStart sc g } := by
    rw [update_eq]
    cases r.moreInRegion
    · rfl
    · simp [logged, hcur]
  rw [onResp_eq, doneEx, hs2, isDone_eq]
  -- `onResp` is `close` of this explicit, open state if `isDone`, else the state itself: for each
  -- value of the three flags, read the components off `close_eq`
  cases r.moreInRegion <;> cases r.moreResults <;> cases geoDone sc g <;>
    simp [close_eq, closeEx, closeReq, logged, hc, hcl]

/-- The server accepted the response `(g, r)` to the request built from `s` and is in `v1`: it cut
`T0` (the region's rows for an open request, what was pending for a continuation) into the fragments
of `r` with `p` left pending, and keeps region scanner `id` open iff the region goes on. -/
structure Accepted (table : List Row) (sc : Scan) (s : St) (g : Region) (r : Resp) (v1 : Srv) (id : Nat)
    (T0 p : List (List Cell)) : Prop where
  cur : s.curId.or r.scannerId = some id
  cut : chunk T0 r.results = some p
  flags : flagsOk r p (beyond table g sc.reversed s.startRow sc.stop).isEmpty = true
  scanners : v1.scanners =
    if r.moreInRegion then [⟨id, g, p, (beyond table g sc.reversed s.startRow sc.stop).isEmpty⟩] else []

section
variable (table : List Row) (splits : List Bytes) (sc : Scan)

theorem srvStep_open (s : St) (v v1 : Srv) (g1 : Region) (r : Resp)
    (hcur : s.curId = none) (hv : v.scanners = []) (hcl : sc.closing = false)
    (h : Srv.step table splits sc v ⟨mkReq sc s, some (.resp g1 r)⟩ = some v1) :
    locate splits s.startRow = some g1 ∧ ∃ id p, Accepted table sc s g1 r v1 id
      ((regionRows table g1 sc.reversed s.startRow sc.stop).map Row.frag) p := by
  rw [mkReq_none sc s hcur] at h
  -- every test of the acceptor must have succeeded
  cases hl : locate splits s.startRow with
  | none => simp [Srv.step, hl] at h
  | some g' =>
    cases hid : r.scannerId with
    | none => simp [Srv.step, hl, hid] at h
    | some id =>
      simp only [Srv.step, hl, hid, hcl, Bool.not_false, Bool.and_true] at h
      by_cases hg : g' = g1 ∧ id ∉ v.used
      · rw [if_pos hg] at h
        obtain ⟨rfl, _⟩ := hg
        cases hch : chunk ((regionRows table g' sc.reversed s.startRow sc.stop).map Row.frag) r.results with
        | none => simp [hch] at h
        | some p =>
          by_cases hfl : flagsOk r p (beyond table g' sc.reversed s.startRow sc.stop).isEmpty = true
          · refine ⟨rfl, id, p, { cur := by rw [hcur, hid]; rfl, cut := hch, flags := hfl, scanners := ?_ }⟩
            simp only [hch, hfl, if_true, hv] at h
            cases hmi : r.moreInRegion <;> rw [hmi] at h <;> cases h <;> rfl
          · simp [hch, hfl] at h
      · rw [if_neg hg] at h; cases h

theorem srvStep_cont (s : St) (v v1 : Srv) (g1 : Region) (r : Resp) (x : SrvScanner)
    (hcur : s.curId = some x.id) (hv : v.scanners = [x])
    (hlast : x.last = (beyond table x.reg sc.reversed s.startRow sc.stop).isEmpty)
    (h : Srv.step table splits sc v ⟨mkReq sc s, some (.resp g1 r)⟩ = some v1) :
    x.reg = g1 ∧ ∃ p, Accepted table sc s x.reg r v1 x.id x.pending p := by
  rw [mkReq_some sc s _ hcur] at h
  simp only [Srv.step, hv, List.find?, beq_self_eq_true, Bool.not_false, Bool.and_true,
    List.filter, bne_self_eq_false] at h
  by_cases hreg : x.reg = g1
  · rw [if_pos hreg] at h
    cases hch : chunk x.pending r.results with
    | none => simp [hch] at h
    | some p =>
      by_cases hfl : flagsOk r p x.last = true
      · refine ⟨hreg, p, { cur := by rw [hcur]; rfl, cut := hch, flags := hlast ▸ hfl, scanners := ?_ }⟩
        simp only [hch, hfl, if_true] at h
        rw [← hlast]
        cases hmi : r.moreInRegion <;> rw [hmi] at h <;> cases h <;> rfl
      · simp [hch, hfl] at h
  · rw [if_neg hreg] at h; cases h

theorem srvStep_close (v : Srv) (q : Req) (hk : q.kind = .close) :
    ∃ v1, Srv.step table splits sc v ⟨q, none⟩ = some v1 := by
  unfold Srv.step
  rw [hk]
  exact ⟨_, rfl⟩

end

/-- `ScanHyps` without what only the whole scan needs (`cells`, `revStart`). -/
structure WalkHyps (table : List Row) (splits : List Bytes) (sc : Scan) : Prop where
  splitsOk : splitsOk [] splits = true
  sorted : sortedKeys table = true
  keys : ∀ r ∈ table, r.key ≠ [] ∧ hasPadding r.key = false
  notClosing : sc.closing = false

/-- Where the walk stands, with the scanner in `s` and the server in `v`, and the cell rows `T` still
to be delivered. -/
inductive WalkInv (table : List Row) (splits : List Bytes) (sc : Scan) (s : St) (v : Srv)
    (T : List (List Cell)) : Prop where
  /-- The scan is over. -/
  | closed (hc : s.closed = true) (hT : T = [])
  /-- Between regions: no region scanner is open; the next open request goes to `g`. -/
  | between (g : Region) (hc : s.closed = false) (hloc : locate splits s.startRow = some g)
      (hcur : s.curId = none) (hv : v.scanners = [])
      (hT : T = (regionRows table g sc.reversed s.startRow sc.stop ++
        beyond table g sc.reversed s.startRow sc.stop).map Row.frag)
  /-- Inside region `g`: region scanner `id` is open there with the rows `p` pending. -/
  | inside (g : Region) (id : Nat) (p : List (List Cell)) (hc : s.closed = false)
      (hloc : locate splits s.startRow = some g) (hcur : s.curId = some id)
      (hv : v.scanners = [⟨id, g, p, (beyond table g sc.reversed s.startRow sc.stop).isEmpty⟩])
      (hT : T = p ++ (beyond table g sc.reversed s.startRow sc.stop).map Row.frag)

/-- The server's step on the response left `v1`; it accepts the client's possible close request, and
then the invariant holds again, with `p` and what lies beyond `g` still to be delivered. -/
theorem after_resp {table : List Row} {splits : List Bytes} {sc : Scan} (H : WalkHyps table splits sc)
    {s : St} {g : Region} {r : Resp} {v1 : Srv} {id : Nat} {T0 p : List (List Cell)}
    (hc : s.closed = false) (hloc : locate splits s.startRow = some g)
    (ha : Accepted table sc s g r v1 id T0 p) :
    ∃ v2, Srv.run table splits sc v1 (doneEx sc s g r) = some v2 ∧
      WalkInv table splits sc (onResp sc s g r) v2
        (p ++ (beyond table g sc.reversed s.startRow sc.stop).map Row.frag) := by
  obtain ⟨hclosed, hcurId, hstart, hex⟩ := onResp_fields sc s g r id H.notClosing hc ha.cur
  rw [hex]
  generalize onResp sc s g r = s' at hclosed hcurId hstart ⊢
  obtain ⟨hpend, hlast⟩ : (r.moreInRegion = true ∨ p = []) ∧ (r.moreResults = true ∨
      p = [] ∧ (beyond table g sc.reversed s.startRow sc.stop).isEmpty = true) := by
    simpa [flagsOk] using ha.flags
  have hv1 := ha.scanners
  obtain ⟨hhas, hgmem⟩ := locate_has hloc
  cases hmi : r.moreInRegion with
  | true =>
    rw [hmi] at hv1 hclosed hcurId hstart
    simp only [if_true, Bool.true_and, Bool.not_true, Bool.false_and, Bool.or_false]
      at hv1 hclosed hcurId hstart ⊢
    cases hmr : r.moreResults with
    | true =>
      -- more to come from this region
      rw [hmr] at hclosed hcurId
      rw [← hstart] at hloc hv1 ⊢
      exact ⟨v1, rfl, .inside g id p (by simpa using hclosed) hloc (by simpa using hcurId) hv1 rfl⟩
    | false =>
      -- "no more results" with the region scanner still open: the client closes it
      obtain ⟨v1', hv1'⟩ := srvStep_close table splits sc v1 (closeReq s id) rfl
      obtain ⟨rfl, hnone⟩ := hlast.resolve_left (by simp [hmr])
      exact ⟨v1', by simp [Srv.run, hv1'],
        .closed (by simp [hclosed, hmr]) (by simp [List.isEmpty_iff.mp hnone])⟩
  | false =>
    -- the region is finished
    obtain rfl : p = [] := hpend.resolve_left (by simp [hmi])
    rw [hmi] at hv1 hclosed hcurId hstart
    simp only [Bool.false_and, Bool.false_eq_true, if_false, List.nil_append, Bool.not_false,
      Bool.true_and] at hv1 hclosed hcurId hstart ⊢
    cases hmr : r.moreResults with
    | false =>
      obtain ⟨-, hnone⟩ := hlast.resolve_left (by simp [hmr])
      exact ⟨v1, rfl, .closed (by simp [hclosed, hmr]) (by simp [List.isEmpty_iff.mp hnone])⟩
    | true =>
      cases hd : geoDone sc g with
      | true =>
        exact ⟨v1, rfl, .closed (by simp [hclosed, hd])
          (by rw [geoDone_beyond table g s.startRow hd]; rfl)⟩
      | false =>
        obtain ⟨g', hloc'⟩ := locate_total splits (nextStart sc g)
        rw [← hstart] at hloc'
        refine ⟨v1, rfl, .between g' (by simp [hclosed, hmr, hd]) hloc' hcurId hv1 ?_⟩
        rw [hstart, beyond_next table H.sorted splits H.splitsOk H.keys hgmem s.startRow hhas hd
          (hstart ▸ hloc')]

theorem walk_chunk {table : List Row} {splits : List Bytes} {sc : Scan} (H : WalkHyps table splits sc)
    (R : List Reply) (s : St) (v v' : Srv) (T : List (List Cell))
    (hinv : WalkInv table splits sc s v T)
    (hrun : Srv.run table splits sc v (pullEx sc R s) = some v') :
    (pull sc R s).ok = true ∧ chunk T (pull sc R s).frags = some [] := by
  fun_induction pull sc R s generalizing v T with
  | case1 s hc | case3 _ _ s hc =>
    -- the scanner is closed
    cases hinv with
    | closed _ hT => rw [hT]; exact ⟨rfl, rfl⟩
    | between _ hc' | inside _ _ _ hc' => rw [hc] at hc'; cases hc'
  | case2 s hc | case4 _ s hc c =>
    -- a conforming server sends no error, and the script is not exhausted
    simp only [pullEx, hc, Bool.false_eq_true, if_false, errEx, Srv.run, srvStep_err] at hrun
    cases hrun
  | case5 rest s hc g1 r _ ih =>
    -- a response: the server's step on the first exchange …
    simp only [pullEx, hc, Bool.false_eq_true, if_false] at hrun
    have hcf : s.closed = false := by simpa using hc
    rw [respEx, List.cons_append, Srv.run] at hrun
    cases hst : Srv.step table splits sc v ⟨mkReq sc s, some (.resp g1 r)⟩ with
    | none => rw [hst] at hrun; cases hrun
    | some v1 =>
      simp only [hst] at hrun
      -- … cuts `T0` off `T` and leaves `p` pending: by `after_resp` the invariant holds again
      obtain ⟨id, T0, p, hloc, ha, hT⟩ : ∃ id T0 p, locate splits s.startRow = some g1 ∧
          Accepted table sc s g1 r v1 id T0 p ∧
          T = T0 ++ (beyond table g1 sc.reversed s.startRow sc.stop).map Row.frag := by
        cases hinv with
        | closed hc' => exact absurd hc' hc
        | between g _ hloc hcur hv hT =>
          -- open request: the region's rows are cut
          obtain ⟨hl, id, p, ha⟩ := srvStep_open table splits sc s v v1 g1 r hcur hv H.notClosing hst
          obtain rfl : g = g1 := Option.some.inj (hloc.symm.trans hl)
          exact ⟨id, _, p, hl, ha, by rw [hT, List.map_append]⟩
        | inside g id p0 _ hloc hcur hv hT =>
          -- continue request: what was pending is cut
          obtain ⟨rfl, p, ha⟩ := srvStep_cont table splits sc s v v1 g1 r _ hcur hv rfl hst
          exact ⟨id, p0, p, hloc, ha, hT⟩
      obtain ⟨v2, hv2, hinv2⟩ := after_resp H hcf hloc ha
      rw [srvRun_append, hv2] at hrun
      obtain ⟨hok, hchunk⟩ := ih _ _ hinv2 hrun
      exact ⟨hok, by rw [hT, chunk_append_append _ _ _ _ _ ha.cut]; exact hchunk⟩

theorem ScanHyps.walk {table : List Row} {splits : List Bytes} {sc : Scan} (H : ScanHyps table splits sc) :
    WalkHyps table splits sc := ⟨H.splitsOk, H.sorted, H.keys, H.notClosing⟩

theorem rowOk_frag (r : Row) (h : r.cells ≠ []) : RowOk r.key r.frag := by
  refine ⟨by simpa [Row.frag] using h, ?_⟩
  intro c hc
  simp only [Row.frag, List.mem_map] at hc
  obtain ⟨q, _, rfl⟩ := hc
  rfl

theorem rowsOk_frags (l : List Row) (hp : l.Pairwise (fun a b => a.key ≠ b.key))
    (hc : ∀ r ∈ l, r.cells ≠ []) : RowsOk (l.map Row.frag) := by
  induction l with
  | nil => trivial
  | cons r rest ih =>
    rw [List.pairwise_cons] at hp
    refine ⟨⟨r.key, rowOk_frag r (hc r (by simp)), ?_⟩, ih hp.2 (fun x hx => hc x (by simp [hx]))⟩
    intro r' hr' hok
    cases rest with
    | nil => simp at hr'
    | cons r2 rest2 =>
      simp only [List.map_cons, List.head?_cons, Option.mem_def, Option.some.injEq] at hr'
      subst hr'
      have := rowOk_key_unique hok (rowOk_frag r2 (hc r2 (by simp)))
      exact hp.1 r2 (by simp) this

theorem inRange_rowsOk {table : List Row} {splits : List Bytes} {sc : Scan} (H : ScanHyps table splits sc) :
    RowsOk ((inRange sc table).map Row.frag) := by
  apply rowsOk_frags
  · unfold inRange
    exact ((scanOrder_pairwise sc.reversed table H.sorted).imp scanLt.key_ne).filter _
  · intro r hr
    unfold inRange at hr
    exact H.cells r (mem_scanOrder.mp (List.mem_filter.mp hr).1)

theorem walkInv_init {table : List Row} {splits : List Bytes} {sc : Scan} (H : ScanHyps table splits sc) :
    WalkInv table splits sc (St.init sc) Srv.init ((inRange sc table).map Row.frag) := by
  obtain ⟨g, hg⟩ := locate_total splits sc.start
  refine .between g rfl hg rfl rfl ?_
  congr 1
  -- `inRange sc table` unfolds to the filter on the right of `range_split`
  exact (range_split table H.sorted sc.reversed g sc.start sc.stop (locate_has hg).1 H.revStart).symm

theorem conforming_walk {table : List Row} {splits : List Bytes} {sc : Scan} (H : ScanHyps table splits sc)
    (R : List Reply) (hconf : Conforming table splits sc (collect sc R).2.1.log.reverse) :
    (pull sc R (St.init sc)).ok = true ∧
      chunk ((inRange sc table).map Row.frag) (pull sc R (St.init sc)).frags = some [] := by
  obtain ⟨-, hlog, -⟩ := collect_spec sc R
  unfold Conforming at hconf
  rw [hlog, pull_log] at hconf
  simp only [St.init, List.reverse_nil, List.nil_append] at hconf
  obtain ⟨v', hv'⟩ := Option.isSome_iff_exists.mp hconf
  exact walk_chunk H.walk R (St.init sc) Srv.init v' _ (walkInv_init H) hv'

end GV.Scanner
