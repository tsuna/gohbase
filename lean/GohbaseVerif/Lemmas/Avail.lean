import GohbaseVerif.Model.Avail
/-! The availability protocol (C09): a per-object invariant with one lemma per primitive update of an object,
frame lemmas for the other objects, and `step_inv`, which goes through the actions once and names them; at
the end the requester's loop body (`pass`) by the path taken. -/
namespace GV.Avail

/-- per-object invariant; `closed`, `closes` are the global flag and closure log, `r` the object -/
structure GoodReg (closed : Bool) (closes : List (Nat × Nat)) (r : Nat) (x : Reg) : Prop where
  le1 : x.ests.length ≤ 1
  /-- an available object has no establisher (one is only ever responsible for an unavailable object) -/
  held : x.avail = none → x.ests = []
  /-- the token: somebody will close an open channel, unless nobody else can see the object or `Close` ran -/
  tok : x.avail ≠ none → x.ests.length = 1 ∨ x.published = false ∨ closed = true
  pristine : x.used = false → x.avail = none ∧ x.published = false ∧ x.gen = 0
  pubUsed : x.published = true → x.used = true
  /-- the open channel is the newest generation -/
  gen : ∀ g, x.avail = some g → g + 1 = x.gen
  /-- every generation created so far is in the closure log once, but for the open one -/
  log : ∀ g, closes.count (r, g) = if g < x.gen ∧ x.avail ≠ some g then 1 else 0

structure Good (s : State) : Prop where
  regs : ∀ r, GoodReg s.closed s.closes r (s.regs r)
  nofault : s.fault = false

theorem ests_single {l : List PC} {p : PC} (h : l.length ≤ 1) (hp : p ∈ l) : l = [p] := by
  match l, h, hp with
  | [a], _, hp => simp at hp; rw [hp]
  | a :: b :: t, h, _ => simp at h

namespace GoodReg
variable {c : Bool} {cl : List (Nat × Nat)} {r : Nat} {x : Reg}

theorem other_close {i : Nat} (h : GoodReg c cl i x) (hne : r ≠ i) (g : Nat) :
    GoodReg c ((r, g) :: cl) i x := by
  refine { h with log := fun g' => ?_ }
  rw [List.count_cons_of_ne (fun e => hne (Prod.mk.inj e).1)]
  exact h.log g'

theorem closing (h : GoodReg c cl r x) : GoodReg true cl r x :=
  { h with tok := fun _ => Or.inr (Or.inr rfl) }

/-- changes of `client` / `dead` are irrelevant -/
theorem irrelevant (h : GoodReg c cl r x) (y : Reg) (h1 : y.ests = x.ests) (h2 : y.avail = x.avail)
    (h3 : y.published = x.published) (h4 : y.used = x.used) (h5 : y.gen = x.gen) :
    GoodReg c cl r y := by
  constructor
  · rw [h1]; exact h.le1
  · rw [h1, h2]; exact h.held
  · rw [h1, h2, h3]; exact h.tok
  · rw [h2, h3, h4, h5]; exact h.pristine
  · rw [h3, h4]; exact h.pubUsed
  · rw [h2, h5]; exact h.gen
  · rw [h2, h5]; exact h.log

theorem avail_of_mem (h : GoodReg c cl r x) {p : PC} (hp : p ∈ x.ests) : x.avail ≠ none :=
  fun hn => by rw [h.held hn] at hp; cases hp

theorem ests_of_unused (h : GoodReg c cl r x) (hu : x.used = false) : x.ests = [] :=
  h.held (h.pristine hu).1

/-- `hes`: who answers for the new channel (`tok`): an establisher, or nobody once the client is closed -/
theorem opened (h : GoodReg c cl r x) (hn : x.avail = none) (hu : x.used = true) (cli : Option Nat)
    {es : List PC} (hes : es.length = 1 ∨ es = [] ∧ c = true) :
    GoodReg c cl r { x with avail := some x.gen, gen := x.gen + 1, client := cli, ests := es } where
  le1 := by rcases hes with he | ⟨he, _⟩ <;> simp [he]
  held := fun h' => nomatch h'
  tok := fun _ => hes.imp id fun he => Or.inr he.2
  pristine := fun hu' => by rw [hu] at hu'; cases hu'
  pubUsed := h.pubUsed
  gen := fun g hg => by cases hg; rfl
  log := fun g => by
    have : (g < x.gen + 1 ∧ some x.gen ≠ some g) ↔ (g < x.gen ∧ x.avail ≠ some g) := by
      rw [hn]; simp only [ne_eq, Option.some.injEq, reduceCtorEq, not_false_eq_true, and_true]; omega
    simp only [this]; exact h.log g

theorem markAndSpawn (h : GoodReg c cl r x) (hu : x.used = true) (b : Bool) :
    GoodReg c cl r (markAndSpawn x b) := by
  unfold Avail.markAndSpawn
  split
  · rename_i hn
    exact h.opened hn hu _ (Or.inl (by simp [h.held hn]))
  · exact h

theorem movePC (h : GoodReg c cl r x) {p : PC} (hp : p ∈ x.ests) (q : PC) :
    GoodReg c cl r (movePC x p q) := by
  have he : (Avail.movePC x p q).ests.length = 1 := by
    simp [Avail.movePC, ests_single h.le1 hp]
  exact { h with le1 := Nat.le_of_eq he, held := fun hn => absurd hn (h.avail_of_mem hp),
                 tok := fun _ => Or.inl he }

/-- an establisher leaving without `MarkAvailable` is only fine once the client is closed -/
theorem dropPC_closed (h : GoodReg c cl r x) (hc : c = true) (p : PC) : GoodReg c cl r (dropPC x p) :=
  { h with le1 := Nat.le_trans List.length_erase_le h.le1,
           held := fun hn => by simp [Avail.dropPC, h.held hn],
           tok := fun _ => Or.inr (Or.inr hc) }

theorem closeAllMark (h : GoodReg c cl r x) (hc : c = true) (hu : x.used = true) :
    GoodReg c cl r { (markUnavail x).1 with client := none } := by
  unfold markUnavail
  split
  · rename_i hn
    exact h.opened hn hu none (Or.inr ⟨h.held hn, hc⟩)
  · exact h.irrelevant _ rfl rfl rfl rfl rfl

theorem release (h : GoodReg c cl r x) (hp : PC.release ∈ x.ests) {g : Nat} (hg : x.avail = some g) :
    GoodReg c ((r, g) :: cl) r { dropPC x .release with avail := none } where
  le1 := by simp [Avail.dropPC, ests_single h.le1 hp]
  held := fun _ => by simp [Avail.dropPC, ests_single h.le1 hp]
  tok := fun h' => absurd rfl h'
  pristine := fun hu => by have := (h.pristine hu).1; rw [hg] at this; cases this
  pubUsed := h.pubUsed
  gen := fun _ h' => nomatch h'
  log := fun g' => by
    have hgen := h.gen g hg
    have hl := h.log g'
    rw [hg] at hl
    show ((r, g) :: cl).count (r, g') = if g' < x.gen ∧ (none : Option Nat) ≠ some g' then 1 else 0
    -- `g` is the one generation below `x.gen` that was still open
    rw [List.count_cons, hl]
    by_cases hgg : g = g'
    · subst hgg
      have : g < x.gen := by omega
      simp [this]
    · simp [hgg]

/-- `he`: who answers for the new object's channel (`tok`): an establisher, or nobody while it is private -/
theorem fresh_obj (h : GoodReg c cl n x) (hu : x.used = false) (pub : Bool) (ests : List PC)
    (he : ests.length = 1 ∨ (ests = [] ∧ pub = false)) : GoodReg c cl n (fresh pub ests) where
  le1 := by rcases he with he | ⟨he, _⟩ <;> simp [fresh, he]
  held := fun h' => nomatch h'
  tok := fun _ => he.imp id fun he => Or.inl he.2
  pristine := fun h' => nomatch h'
  pubUsed := fun _ => rfl
  gen := fun g hg => by cases hg; rfl
  log := fun g => by
    have hl := h.log g
    obtain ⟨ha, _, hgen⟩ := h.pristine hu
    rw [ha, hgen] at hl
    rw [hl]
    show (if g < 0 ∧ (none : Option Nat) ≠ some g then 1 else 0) = if g < 1 ∧ some 0 ≠ some g then 1 else 0
    simp only [Nat.not_lt_zero, false_and, if_false, ne_eq, Option.some.injEq]
    split <;> omega

/-- lookup found another region but the cache refused it: the private object was marked
unavailable and available again -/
theorem fresh_not_replaced (h : GoodReg c cl n x) (hu : x.used = false) :
    GoodReg c ((n, 0) :: cl) n { used := true, avail := none, gen := 1 } :=
  (h.fresh_obj hu false [.release] (Or.inl rfl)).release List.mem_cons_self rfl

end GoodReg

theorem init_good : Good init := by
  constructor
  · intro r
    simp only [init]
    split <;> constructor <;> simp
  · rfl

@[simp] theorem upd_regs_self (s : State) (r : Nat) (f : Reg → Reg) :
    (upd s r f).regs r = f (s.regs r) := by simp [upd]
theorem upd_congr {s : State} {r : Nat} {f g : Reg → Reg} (h : f (s.regs r) = g (s.regs r)) :
    upd s r f = upd s r g := by simp only [upd, h]
theorem upd_regs_other (s : State) (r : Nat) (f : Reg → Reg) {i : Nat} (h : i ≠ r) :
    (upd s r f).regs i = s.regs i := by simp [upd, h]
theorem upd_upd (s : State) (r : Nat) (f g : Reg → Reg) :
    upd (upd s r f) r g = upd s r fun x => g (f x) := by
  simp only [upd, if_true]
  congr 1
  funext i
  split <;> rfl
@[simp] theorem upd_closed (s : State) (r : Nat) (f : Reg → Reg) : (upd s r f).closed = s.closed := rfl
@[simp] theorem upd_closes (s : State) (r : Nat) (f : Reg → Reg) : (upd s r f).closes = s.closes := rfl
@[simp] theorem upd_fault (s : State) (r : Nat) (f : Reg → Reg) : (upd s r f).fault = s.fault := rfl

theorem movePC_len {x : Reg} {p q : PC} (hp : p ∈ x.ests) : (movePC x p q).ests.length = x.ests.length := by
  simp only [movePC, List.length_cons, List.length_erase_of_mem hp]
  have : 0 < x.ests.length := List.length_pos_of_mem hp
  omega

theorem markAndSpawn_len (x : Reg) (b : Bool) : x.ests.length ≤ (markAndSpawn x b).ests.length := by
  unfold markAndSpawn; split <;> simp

theorem markAndSpawn_of_avail {x : Reg} (h : x.avail ≠ none) (b : Bool) : markAndSpawn x b = x := by
  unfold markAndSpawn
  split
  · rename_i hn; exact absurd hn h
  · rfl

theorem markAvail_of_avail {s : State} {r g : Nat} (h : (s.regs r).avail = some g) :
    markAvail s r = { upd s r (fun x => { x with avail := none }) with closes := (r, g) :: s.closes } := by
  simp [markAvail, h]

theorem stepLookup_dead {s : State} {r : Nat} {res : LookupRes} (hd : (s.regs r).dead = true)
    (hres : res ≠ .tableNotFound) : stepLookup s r res = some (lookupDead s r) := by
  cases res <;> simp [stepLookup, hd] at hres ⊢

theorem forall_upd {s : State} {r : Nat} {f : Reg → Reg} {P : Nat → Reg → Prop} (hr : P r (f (s.regs r)))
    (ho : ∀ i, i ≠ r → P i (s.regs i)) (i : Nat) : P i ((upd s r f).regs i) := by
  by_cases hi : i = r
  · subst hi; rw [upd_regs_self]; exact hr
  · rw [upd_regs_other _ _ _ hi]; exact ho i hi

theorem good_upd {s : State} (hg : Good s) (r : Nat) (f : Reg → Reg)
    (h : GoodReg s.closed s.closes r (f (s.regs r))) : Good (upd s r f) :=
  ⟨forall_upd (P := GoodReg s.closed s.closes) h fun i _ => hg.regs i, hg.nofault⟩

theorem good_upd_close {s : State} (hg : Good s) (k g : Nat) (f : Reg → Reg)
    (h : GoodReg s.closed ((k, g) :: s.closes) k (f (s.regs k))) :
    Good { upd s k f with closes := (k, g) :: s.closes } :=
  ⟨forall_upd (P := GoodReg s.closed ((k, g) :: s.closes)) h fun i hi =>
    (hg.regs i).other_close (Ne.symm hi) g, hg.nofault⟩

/-- C09's `establisher_releases_on_every_exit` for one step; proved along with the invariant -/
def ExitsOK (s s' : State) : Prop :=
  ∀ i, (s'.regs i).ests.length < (s.regs i).ests.length →
    (∃ g, (s.regs i).avail = some g ∧ (s'.regs i).avail = none ∧ s'.closes = (i, g) :: s.closes) ∨
      s.closed = true

theorem exitsOK_of_le {s s' : State} (h : ∀ i, (s.regs i).ests.length ≤ (s'.regs i).ests.length) :
    ExitsOK s s' := fun i hlt => absurd hlt (Nat.not_lt.mpr (h i))

theorem upd_ests_le {s : State} {r : Nat} {f : Reg → Reg}
    (h : (s.regs r).ests.length ≤ (f (s.regs r)).ests.length) (i : Nat) :
    (s.regs i).ests.length ≤ ((upd s r f).regs i).ests.length :=
  forall_upd (P := fun i x => (s.regs i).ests.length ≤ x.ests.length) h (fun _ _ => Nat.le_refl _) i

structure Inv (s s' : State) : Prop where
  good : Good s'
  exits : ExitsOK s s'

theorem inv_upd {s : State} (hg : Good s) (r : Nat) (f : Reg → Reg)
    (h : GoodReg s.closed s.closes r (f (s.regs r)))
    (hl : s.closed = true ∨ (s.regs r).ests.length ≤ (f (s.regs r)).ests.length) :
    Inv s (upd s r f) :=
  ⟨good_upd hg r f h, hl.elim (fun hc _ _ => Or.inr hc) fun hl => exitsOK_of_le (upd_ests_le hl)⟩

theorem inv_movePC {s : State} (hg : Good s) (r : Nat) {p : PC} (hp : p ∈ (s.regs r).ests) (q : PC) :
    Inv s (upd s r fun x => movePC x p q) :=
  inv_upd hg r _ ((hg.regs r).movePC hp q) (Or.inr (Nat.le_of_eq (movePC_len hp).symm))

theorem inv_dropPC {s : State} (hg : Good s) (hc : s.closed = true) (r : Nat) (p : PC) :
    Inv s (upd s r fun x => dropPC x p) :=
  inv_upd hg r _ ((hg.regs r).dropPC_closed hc p) (Or.inl hc)

theorem inv_release {s : State} (hg : Good s) (r : Nat) (hp : PC.release ∈ (s.regs r).ests) {g : Nat}
    (hgv : (s.regs r).avail = some g) :
    Inv s { upd s r (fun x => { dropPC x .release with avail := none }) with
            closes := (r, g) :: s.closes } := by
  refine ⟨good_upd_close hg r g _ ((hg.regs r).release hp hgv), fun i hlt => ?_⟩
  by_cases hi : i = r
  · subst hi
    exact Or.inl ⟨g, hgv, by simp, rfl⟩
  · have : ((upd s r fun x => { dropPC x .release with avail := none }).regs i).ests.length <
        (s.regs i).ests.length := hlt
    rw [upd_regs_other _ _ _ hi] at this
    exact absurd this (Nat.lt_irrefl _)

theorem mem_ests_upd_other {s : State} {n r : Nat} {p : PC} (hnr : n ≠ r) (hp : p ∈ (s.regs r).ests)
    (f : Reg → Reg) : p ∈ ((upd s n f).regs r).ests := by
  rw [upd_regs_other _ _ _ (Ne.symm hnr)]; exact hp

theorem ests_le_new_move {s : State} {n r : Nat} {p : PC} (hne : (s.regs n).ests = []) (hnr : n ≠ r)
    (hp : p ∈ (s.regs r).ests) (f : Reg → Reg) (q : PC) (i : Nat) :
    (s.regs i).ests.length ≤ ((upd (upd s n f) r fun x => movePC x p q).regs i).ests.length := by
  refine Nat.le_trans (upd_ests_le (r := n) (f := f) ?_ i) (upd_ests_le ?_ i)
  · rw [hne]; exact Nat.zero_le _
  · exact Nat.le_of_eq (movePC_len (mem_ests_upd_other hnr hp f)).symm

theorem step_inv {s s' : State} {a : Action} (hg : Good s) (h : step s a = some s') :
    Inv s s' := by
  cases a with
  | close =>
    cases h
    exact ⟨⟨fun r => (hg.regs r).closing, hg.nofault⟩, exitsOK_of_le fun _ => Nat.le_refl _⟩
  | closeAllMark r =>
    simp only [step, Option.ite_none_right_eq_some, Option.some.injEq] at h
    obtain ⟨⟨hc, hp⟩, rfl⟩ := h
    exact inv_upd hg r _ ((hg.regs r).closeAllMark hc ((hg.regs r).pubUsed hp)) (Or.inl hc)
  | mark r =>
    simp only [step, Option.ite_none_right_eq_some, Option.some.injEq] at h
    obtain ⟨hp, rfl⟩ := h
    exact inv_upd hg r _ ((hg.regs r).markAndSpawn ((hg.regs r).pubUsed hp) _)
      (Or.inr (markAndSpawn_len _ _))
  | setClientNil r | markDead r =>
    simp only [step, Option.ite_none_right_eq_some, Option.some.injEq] at h
    obtain ⟨_, rfl⟩ := h
    exact inv_upd hg r _ ((hg.regs r).irrelevant _ rfl rfl rfl rfl rfl) (Or.inr (Nat.le_refl _))
  | findRegion n replaced =>
    simp only [step, Option.ite_none_left_eq_some, Option.some.injEq, Bool.not_eq_true] at h
    obtain ⟨hu, rfl⟩ := h
    refine inv_upd hg n _ ((hg.regs n).fresh_obj hu _ _ (by cases replaced <;> simp)) (Or.inr ?_)
    rw [(hg.regs n).ests_of_unused hu]; exact Nat.zero_le _
  | estStart r =>
    simp only [step, Option.ite_none_right_eq_some] at h
    obtain ⟨hp, h⟩ := h
    by_cases hc : s.closed = true
    · rw [if_pos hc] at h; cases h; exact inv_dropPC hg hc r _
    · rw [if_neg hc] at h; cases h; exact inv_movePC hg r hp _
  | estSleep r fromL err =>
    simp only [step, Option.ite_none_right_eq_some] at h
    obtain ⟨hp, h⟩ := h
    cases err with
    | false => cases h; exact inv_movePC hg r hp _
    | true =>
      simp only [if_true, Option.ite_none_right_eq_some] at h
      obtain ⟨_, h⟩ := h
      cases h; exact inv_movePC hg r hp _
  | estLookup r res =>
    simp only [step, Option.ite_none_right_eq_some] at h
    obtain ⟨hp, h⟩ := h
    by_cases htnf : res = .tableNotFound
    · subst htnf
      cases h
      -- `movePC`, then the fields that do not matter
      exact inv_upd hg r _ (((hg.regs r).movePC hp _).irrelevant _ rfl rfl rfl rfl rfl)
        (Or.inr (Nat.le_of_eq (movePC_len hp).symm))
    -- every other outcome first looks whether the region is dead
    by_cases hd : (s.regs r).dead = true
    · rw [stepLookup_dead hd htnf] at h
      cases h; exact inv_movePC hg r hp .release
    cases res with
    | tableNotFound => exact absurd rfl htnf
    | ctxErr => simp [stepLookup, hd] at h
    | clientClosed =>
      simp only [stepLookup, if_neg hd, Option.ite_none_right_eq_some] at h
      obtain ⟨hc, h⟩ := h
      cases h; exact inv_dropPC hg hc r _
    | same =>
      simp only [stepLookup, if_neg hd] at h
      cases h; exact inv_movePC hg r hp _
    | newNotReplaced n =>
      simp only [stepLookup, if_neg hd, Option.ite_none_left_eq_some, not_or, Bool.not_eq_true] at h
      obtain ⟨⟨hnu, hnr⟩, h⟩ := h
      cases h
      -- the private object `n` is marked and released again: one closure logged
      have h1 := good_upd_close hg n 0 (fun _ => { used := true, avail := none, gen := 1 })
        ((hg.regs n).fresh_not_replaced hnu)
      refine ⟨?_, exitsOK_of_le (ests_le_new_move ((hg.regs n).ests_of_unused hnu) hnr hp _ _)⟩
      have hp' : PC.lookup ∈ ((upd s n fun _ => { used := true, avail := none, gen := 1 }).regs r).ests :=
        mem_ests_upd_other hnr hp _
      exact good_upd h1 r (fun x => movePC x .lookup .release) ((h1.regs r).movePC hp' _)
    | newReplaced n =>
      simp only [stepLookup, if_neg hd, Option.ite_none_left_eq_some, not_or, Bool.not_eq_true] at h
      obtain ⟨⟨hnu, hnr⟩, h⟩ := h
      cases h
      have h1 := good_upd hg n (fun _ => fresh true [.haveAddr])
        ((hg.regs n).fresh_obj hnu _ _ (Or.inl rfl))
      exact ⟨(inv_movePC h1 r (mem_ests_upd_other hnr hp _) _).good,
        exitsOK_of_le (ests_le_new_move ((hg.regs n).ests_of_unused hnu) hnr hp _ _)⟩
  | estDial r res =>
    simp only [step, Option.ite_none_right_eq_some] at h
    obtain ⟨hp, h⟩ := h
    cases res with
    | ok c =>
      cases h
      exact inv_upd hg r _ (((hg.regs r).movePC hp _).irrelevant _ rfl rfl rfl rfl rfl)
        (Or.inr (Nat.le_of_eq (movePC_len hp).symm))
    | notServing | canceled => cases h; exact inv_movePC hg r hp _
    | serverError =>
      cases h
      -- the region is unavailable already (it has this establisher): `clientDown`'s mark on it does nothing
      rw [upd_congr (g := fun x => movePC x .haveAddr .sleepL)
        (by simp only [markAndSpawn_of_avail ((hg.regs r).avail_of_mem hp)])]
      exact inv_movePC hg r hp _
    | cacheClosed =>
      simp only [stepDial, Option.ite_none_right_eq_some] at h
      obtain ⟨hc, h⟩ := h
      cases h; exact inv_dropPC hg hc r _
  | estRelease r =>
    simp only [step, Option.ite_none_right_eq_some, Option.some.injEq] at h
    obtain ⟨hp, rfl⟩ := h
    cases hgv : (s.regs r).avail with
    | none => exact absurd hgv ((hg.regs r).avail_of_mem hp)
    | some g =>
      rw [markAvail_of_avail (g := g) (by rw [upd_regs_self]; exact hgv), upd_upd]
      exact inv_release hg r hp hgv

theorem good_run {s s' : State} {as : List Action} (hg : Good s) (h : run s as = some s') : Good s' := by
  induction as generalizing s with
  | nil => simp only [run] at h; injection h with h; subst h; exact hg
  | cons a rest ih =>
    simp only [run] at h
    split at h
    · rename_i s1 hs; exact ih (step_inv hg hs).good h
    · cases h

theorem good_of_reachable {s : State} (h : Reachable s) : Good s := by
  obtain ⟨as, h⟩ := h
  exact good_run init_good h

theorem pass_blocked (o : Obs) (hw0 : o.chan0 = true ∧ o.wake0 ≠ .avail) :
    pass o = (.ctxErr, false) ∨ pass o = (.closedErr, false) := by
  unfold pass
  cases hw : o.wake0 with
  | avail => exact absurd hw hw0.2
  | ctx => exact Or.inl (if_pos ⟨hw0.1, rfl⟩)
  | done => exact Or.inr ((if_neg fun h => nomatch h.2).trans (if_pos ⟨hw0.1, rfl⟩))

theorem not_blocked {chan : Bool} {wake w : Wake} (hw : ¬ (chan = true ∧ wake ≠ .avail))
    (hne : w ≠ .avail) : ¬ (chan = true ∧ wake = w) :=
  fun h => hw ⟨h.1, h.2 ▸ hne⟩

theorem pass_first (o : Obs) (hw0 : ¬ (o.chan0 = true ∧ o.wake0 ≠ .avail)) {c : Nat}
    (h0 : o.client0 = some c) : pass o = (.ret c, false) := by
  unfold pass
  rw [if_neg (not_blocked hw0 (by decide)), if_neg (not_blocked hw0 (by decide)), h0]

theorem pass_second (o : Obs) (hw0 : ¬ (o.chan0 = true ∧ o.wake0 ≠ .avail)) (h0 : o.client0 = none) :
    pass o =
      (if o.chan1 ∧ o.wake1 = .ctx then .ctxErr
       else if o.chan1 ∧ o.wake1 = .done then .closedErr
       else if o.dead then .retry
       else match o.client1 with
         | some c => .ret c
         | none => .retry, o.created) := by
  unfold pass
  rw [if_neg (not_blocked hw0 (by decide)), if_neg (not_blocked hw0 (by decide)), h0]
  -- the second component is `o.created` in every branch
  cases o.client1 <;> simp only [Prod.ext_iff, apply_ite Prod.fst, apply_ite Prod.snd, ite_self, and_self]

theorem pass_second_ret (o : Obs) (hw0 : ¬ (o.chan0 = true ∧ o.wake0 ≠ .avail)) (h0 : o.client0 = none)
    {c : Nat} {b : Bool} (h : pass o = (.ret c, b)) : o.dead = false ∧ o.client1 = some c := by
  rw [pass_second o hw0 h0] at h
  have h := (Prod.mk.inj h).1
  split at h
  · cases h
  split at h
  · cases h
  split at h
  · cases h
  rename_i hd
  split at h
  · rename_i hc1
    cases h
    exact ⟨by simpa using hd, hc1⟩
  · cases h

end GV.Avail
