import GohbaseVerif.Lemmas.Conn
/-!
Ownership and correlation on one region connection (C03, C02). `places s c` counts where call `c`
is. `GO s x` is the invariant between any two moves of a goroutine, with a *carry* `x`: the calls that
goroutine has in its hand (taken out of one place, not yet put into the next); `GR` is `GO` at rest,
the carry being what the reader holds.
-/
namespace GV.Conn

/-- results for call `c` in a log of deliveries (`deliveredCount` on a list) -/
def dcount (l : List Dlv) (c : Nat) : Nat := (l.filter (·.call == c)).length

theorem dcount_nil (c : Nat) : dcount [] c = 0 := rfl

theorem dcount_append (l₁ l₂ : List Dlv) (c : Nat) :
    dcount (l₁ ++ l₂) c = dcount l₁ c + dcount l₂ c := by
  simp [dcount, List.filter_append]

theorem dcount_map (cs : List Nat) (g : Nat → Res) (src : Option Nat) (c : Nat) :
    dcount (cs.map (fun x => Dlv.mk x (g x) src)) c = cs.count c := by
  induction cs with
  | nil => rfl
  | cons a cs ih =>
    simp only [dcount, List.map_cons, List.filter_cons, List.count_cons] at ih ⊢
    by_cases h : a = c
    · simp [h, ih]
    · simp [h, ih]

/-- occurrences of call `c` in registered items (`outstanding` on a list, counted) -/
def occ (l : List (Nat × Item)) (c : Nat) : Nat := (l.flatMap (·.2.calls)).count c

theorem occ_nil (c : Nat) : occ [] c = 0 := rfl

theorem occ_cons (p : Nat × Item) (l : List (Nat × Item)) (c : Nat) :
    occ (p :: l) c = p.2.calls.count c + occ l c := by
  simp [occ, List.flatMap_cons, List.count_append]

theorem occ_append (l₁ l₂ : List (Nat × Item)) (c : Nat) :
    occ (l₁ ++ l₂) c = occ l₁ c + occ l₂ c := by
  simp [occ, List.flatMap_append, List.count_append]

theorem occ_single (id : Nat) (it : Item) (c : Nat) : occ [(id, it)] c = it.calls.count c := by
  simp [occ]

theorem dcount_flatMap (its : List (Nat × Item)) (r : Res) (c : Nat) :
    dcount (its.flatMap (fun p => p.2.calls.map (fun x => Dlv.mk x r none))) c = occ its c := by
  induction its with
  | nil => rfl
  | cons a l ih =>
    simp only [List.flatMap_cons, dcount_append, occ_cons, ih]
    rw [dcount_map a.2.calls (fun _ => r) none c]

theorem dcount_frameDlv (id : Nat) (it : Item) (f : Frame) (c : Nat) (hf : f ≠ .badHeader) :
    dcount (frameDlv id it f) c = it.calls.count c := by
  cases f with
  | badHeader => exact absurd rfl hf
  | result => exact dcount_map _ (fun _ => .ok) _ _
  | undecodable => exact dcount_map _ (fun _ => .retryable) _ _
  | perCall rs => exact dcount_map _ _ _ _
  | exception r => exact dcount_map _ (fun _ => r) _ _

theorem dcount_failDlv (s : St) (c : Nat) : dcount (failDlv s) c = occ s.sent c + s.offered.count c := by
  simp only [failDlv, dcount_append, dcount_flatMap]
  rw [dcount_map s.offered (fun _ => Res.connErr) none c]

theorem failDlv_none (s : St) : ∀ d ∈ failDlv s, d.src = none ∧ d.res = .connErr := by
  intro d hd
  simp only [failDlv, List.mem_append, List.mem_flatMap, List.mem_map] at hd
  rcases hd with ⟨p, _, c, _, rfl⟩ | ⟨c, _, rfl⟩ <;> exact ⟨rfl, rfl⟩

theorem lookupSent_some {s : St} {id : Nat} {it : Item} (h : lookupSent s id = some it) :
    s.sent.find? (·.1 == id) = some (id, it) := by
  simp only [lookupSent, Option.map_eq_some_iff] at h
  obtain ⟨p, hp, rfl⟩ := h
  have := List.find?_some hp
  simp only [beq_iff_eq] at this
  rw [hp, ← this]

theorem lookupSent_none {s : St} {id : Nat} (h : lookupSent s id = none) :
    ∀ p ∈ s.sent, p.1 ≠ id := by
  simp only [lookupSent, Option.map_eq_none_iff, List.find?_eq_none] at h
  intro p hp; simpa using h p hp

theorem lookupSent_mem {s : St} {id : Nat} {it : Item} (h : lookupSent s id = some it) :
    (id, it) ∈ s.sent := List.mem_of_find?_eq_some (lookupSent_some h)

theorem perm_erase {l : List (Nat × Item)} {id : Nat} {p : Nat × Item}
    (hnd : (l.map (·.1)).Nodup) (hf : l.find? (·.1 == id) = some p) :
    List.Perm l (p :: l.filter (fun q => q.1 != id)) := by
  induction l with
  | nil => simp at hf
  | cons a l ih =>
    simp only [List.map_cons, List.nodup_cons] at hnd
    by_cases ha : a.1 = id
    · have hl : l.filter (fun q => q.1 != id) = l := by
        apply List.filter_eq_self.2
        intro q hq
        have : q.1 ≠ a.1 := fun e => hnd.1 (e ▸ List.mem_map_of_mem hq)
        simp [← ha, this]
      simp only [List.find?_cons, ha, beq_self_eq_true] at hf
      injection hf with hf
      subst hf
      simp [ha, hl]
    · have hb : (a.1 == id) = false := by simp [ha]
      simp only [List.find?_cons, hb] at hf
      have hb' : (a.1 != id) = true := by simp [ha]
      rw [List.filter_cons, hb', if_pos rfl]
      exact ((ih hnd.2 hf).cons a).trans (List.Perm.swap p a _)

theorem occ_erase (l : List (Nat × Item)) (id : Nat) (p : Nat × Item) (c : Nat)
    (hnd : (l.map (·.1)).Nodup) (hf : l.find? (·.1 == id) = some p) :
    occ (l.filter (fun q => q.1 != id)) c + p.2.calls.count c = occ l c := by
  have := ((perm_erase hnd hf).flatMap_right (·.2.calls)).count_eq c
  rw [List.flatMap_cons, List.count_append] at this
  simp only [occ]; omega

theorem length_erase (l : List (Nat × Item)) (id : Nat) (p : Nat × Item)
    (hnd : (l.map (·.1)).Nodup) (hf : l.find? (·.1 == id) = some p) :
    (l.filter (fun q => q.1 != id)).length + 1 = l.length :=
  (perm_erase hnd hf).length_eq.symm

theorem nodup_snoc {α : Type} {l : List α} {a : α} (h : l.Nodup) (ha : a ∉ l) : (l ++ [a]).Nodup :=
  (List.perm_append_singleton a l).nodup_iff.2 (List.nodup_cons.2 ⟨ha, h⟩)

theorem count_filter_add (l : List Nat) (p : Nat → Bool) (c : Nat) :
    (l.filter p).count c + (l.filter (fun x => !p x)).count c = l.count c :=
  (List.countP_eq_countP_filter_add l (· == c) p).symm

theorem count_take_drop (l : List Nat) (n : Nat) (c : Nat) :
    (l.take n).count c + (l.drop n).count c = l.count c := by
  rw [← List.count_append, List.take_append_drop]

theorem count_cancel {l d : List Nat} {c : Nat} (hle : l.count c ≤ 1) (c' : Nat) :
    (l.filter (· != c)).count c' + (if l.contains c then d ++ [c] else d).count c' =
      l.count c' + d.count c' := by
  by_cases e : c' = c
  · subst e
    have h0 : (l.filter (· != c')).count c' = 0 := List.count_eq_zero.2 (by simp [List.mem_filter])
    by_cases hm : c' ∈ l
    · have := List.count_pos_iff.2 hm
      simp only [List.contains_iff_mem.2 hm, if_true, h0, List.count_append, List.count_singleton_self]
      omega
    · simp [hm, h0, List.count_eq_zero_of_not_mem hm]
  · rw [List.count_filter (by simpa using e)]
    have : [c].count c' = 0 := List.count_eq_zero_of_not_mem (by simpa using e)
    split
    · rw [List.count_append, this]; rfl
    · rfl

/-- In how many "places" call `c` currently is: waiting in `offered`, inside a registered item,
in the reader's hand, delivered, dropped. -/
def places (s : St) (c : Nat) : Nat :=
  s.offered.count c + (outstanding s).count c + s.reader.calls.count c + deliveredCount s c
    + s.dropped.count c

/-- reader-independent part of `places` -/
def base (s : St) (c : Nat) : Nat :=
  s.offered.count c + occ s.sent c + dcount s.delivered c + s.dropped.count c

theorem places_eq (s : St) (c : Nat) : places s c = base s c + s.reader.calls.count c := by
  simp only [places, base, occ, outstanding, dcount, deliveredCount]; omega

/-- how many times call `c` was registered (`wroteAs` entries) -/
def written (s : St) (c : Nat) : Nat := (s.wroteAs.map (·.1)).count c

/-- The calls `ks` may still be queued or registered: even with them no call is queued or registered
more often than it was handed over (`GO.wroteOnce` with room for `ks`). -/
def Room (s : St) (ks : List Nat) : Prop :=
  ∀ c, s.offered.count c + written s c + ks.count c ≤ s.handed.count c

structure GO (s : St) (x : List Nat) : Prop where
  /-- every call is in as many places (the carry `x` included) as it was handed over: once -/
  cnt : ∀ c, base s c + x.count c = s.handed.count c
  handedNodup : s.handed.Nodup
  idsNodup : (s.sent.map (·.1)).Nodup
  idsLe : ∀ p ∈ s.sent, p.1 ≤ s.nextId
  doneOff : s.done = true → s.offered = []
  droppedCtx : ∀ c ∈ s.dropped, c ∈ s.ctxDone
  /-- a result made locally (no response frame) is the connection error, or the marshalling error
  of an unsendable call -/
  srcNone : ∀ d ∈ s.delivered, d.src = none →
    d.res = .connErr ∨ (d.res = .fatal ∧ d.call ∈ s.unsendable)
  /-- the log `wroteAs` agrees with the registered items: under the id of an item exactly its calls -/
  sentWrote : ∀ p ∈ s.sent, ∀ c, (c, p.1) ∈ s.wroteAs ↔ c ∈ p.2.calls
  wroteLe : ∀ p ∈ s.wroteAs, p.2 ≤ s.nextId
  /-- a result derived from the frame with id `id` goes to a call registered under `id` (C02) -/
  dlvWrote : ∀ d ∈ s.delivered, ∀ id, d.src = some id → (d.call, id) ∈ s.wroteAs
  /-- a call is queued for batching or registered, not both, and at most once (`Room s []`) -/
  wroteOnce : ∀ c, s.offered.count c + written s c ≤ s.handed.count c
  unsFatal : ∀ c ∈ s.unsendable, Dlv.mk c .fatal none ∈ s.delivered

theorem go_hand {s : St} {x : List Nat} {c : Nat} (h : GO s x) (hc : c ∉ s.handed) :
    GO { s with handed := s.handed ++ [c] } (c :: x) :=
  { h with
    cnt := fun c' => by
      have := h.cnt c'
      simp only [base, List.count_append, List.count_cons, List.count_nil] at *; omega
    handedNodup := nodup_snoc h.handedNodup hc
    wroteOnce := fun c' => by
      have := h.wroteOnce c'
      simp only [written, List.count_append] at *; omega }

theorem room_hand {s : St} {x : List Nat} (h : GO s x) (c : Nat) :
    Room { s with handed := s.handed ++ [c] } [c] := by
  intro c'
  have := h.wroteOnce c'
  show s.offered.count c' + written s c' + [c].count c' ≤ (s.handed ++ [c]).count c'
  rw [List.count_append]; omega

theorem go_offer {s : St} {x : List Nat} {c : Nat} (h : GO s (c :: x)) (hd : s.done = false)
    (hfr : Room s [c]) : GO { s with offered := s.offered ++ [c] } x :=
  { h with
    cnt := fun c' => by
      have := h.cnt c'
      simp only [base, List.count_append, List.count_cons, List.count_nil] at *; omega
    doneOff := fun hd' => by rw [show s.done = true from hd'] at hd; cases hd
    wroteOnce := fun c' => by
      have := hfr c'
      simp only [written, List.count_append] at *; omega }

theorem go_cancel {s : St} {x : List Nat} (c : Nat) (h : GO s x) :
    GO { s with ctxDone := s.ctxDone ++ [c], offered := s.offered.filter (· != c),
                dropped := if s.offered.contains c then s.dropped ++ [c] else s.dropped } x := by
  -- the call was queued at most once
  have hle : s.offered.count c ≤ 1 := by
    have := h.wroteOnce c
    have := List.nodup_iff_count.1 h.handedNodup c
    omega
  exact { h with
    cnt := fun c' => by
      have := h.cnt c'
      have := count_cancel (d := s.dropped) hle c'
      simp only [base] at *; omega
    doneOff := fun hd => by
      show s.offered.filter _ = []
      rw [h.doneOff hd]; rfl
    droppedCtx := fun c' hc' => by
      apply List.mem_append.2
      split at hc'
      · exact (List.mem_append.1 hc').imp_left (h.droppedCtx c')
      · exact Or.inl (h.droppedCtx c' hc')
    wroteOnce := fun c' => by
      have := h.wroteOnce c'
      have : (s.offered.filter (· != c)).count c' ≤ s.offered.count c' :=
        List.Sublist.count_le _ List.filter_sublist
      simp only [written] at *; omega }

theorem go_deliver {s : St} {x y : List Nat} (ds : List Dlv) (h : GO s (y ++ x))
    (hcnt : ∀ c, dcount ds c = y.count c)
    (hnone : ∀ d ∈ ds, d.src = none → d.res = .connErr)
    (hsrc : ∀ d ∈ ds, ∀ id, d.src = some id → (d.call, id) ∈ s.wroteAs) :
    GO { s with delivered := s.delivered ++ ds } x :=
  { h with
    cnt := fun c => by
      have := h.cnt c; have := hcnt c
      simp only [base, dcount_append, List.count_append] at *; omega
    srcNone := List.forall_mem_append.2 ⟨h.srcNone, fun d hd hn => Or.inl (hnone d hd hn)⟩
    dlvWrote := List.forall_mem_append.2 ⟨h.dlvWrote, hsrc⟩
    unsFatal := fun c hc => List.mem_append_left _ (h.unsFatal c hc) }

theorem go_deliverItem {s : St} {x : List Nat} (it : Item) (r : Res) (src : Option Nat)
    (h : GO s (it.calls ++ x)) (hnone : src = none → r = .connErr)
    (hsrc : ∀ id, src = some id → ∀ c ∈ it.calls, (c, id) ∈ s.wroteAs) :
    GO (deliverItem s it r src) x := by
  refine go_deliver _ h (fun c => dcount_map _ (fun _ => r) _ _) ?_ ?_
  · intro d hd hn
    obtain ⟨c, _, rfl⟩ := List.mem_map.1 hd
    exact hnone hn
  · intro d hd id hid
    obtain ⟨c, hc, rfl⟩ := List.mem_map.1 hd
    exact hsrc id hid c hc

theorem go_drop {s : St} {x : List Nat} (ys : List Nat) (h : GO s (ys ++ x))
    (hy : ∀ c ∈ ys, c ∈ s.ctxDone) : GO { s with dropped := s.dropped ++ ys } x :=
  { h with
    cnt := fun c => by
      have := h.cnt c
      simp only [base, List.count_append] at *; omega
    droppedCtx := fun c hc => (List.mem_append.1 hc).elim (h.droppedCtx c) (hy c) }

theorem go_failLocal {s : St} {x : List Nat} (ys : List Nat) (h : GO s (ys ++ x)) :
    GO { s with nextId := s.nextId + 1, unsendable := s.unsendable ++ ys,
                delivered := s.delivered ++ ys.map (fun c => Dlv.mk c .fatal none) } x :=
  { h with
    cnt := fun c => by
      have := h.cnt c
      have := dcount_map ys (fun _ => Res.fatal) none c
      simp only [base, dcount_append, List.count_append] at *; omega
    idsLe := fun p hp => Nat.le_succ_of_le (h.idsLe p hp)
    srcNone := List.forall_mem_append.2
      ⟨fun d hd hn => (h.srcNone d hd hn).imp_right fun h2 => ⟨h2.1, List.mem_append_left _ h2.2⟩,
       fun d hd _ => by
        obtain ⟨c, hc, rfl⟩ := List.mem_map.1 hd
        exact Or.inr ⟨rfl, List.mem_append_right _ hc⟩⟩
    wroteLe := fun p hp => Nat.le_succ_of_le (h.wroteLe p hp)
    dlvWrote := List.forall_mem_append.2 ⟨h.dlvWrote, fun d hd id hid => by
      obtain ⟨c, _, rfl⟩ := List.mem_map.1 hd; cases hid⟩
    unsFatal := List.forall_mem_append.2 ⟨fun c hc => List.mem_append_left _ (h.unsFatal c hc),
      fun c hc => List.mem_append_right _ (List.mem_map.2 ⟨c, hc, rfl⟩)⟩ }

theorem go_failConn {s : St} {x : List Nat} (h : GO s x) : GO (failConn s) x := by
  rw [failConn_eq]
  split
  · exact h
  · exact { h with
      cnt := fun c => by
        have := h.cnt c; have := dcount_failDlv s c
        simp only [base, dcount_append, occ_nil, List.count_nil] at *; omega
      idsNodup := List.nodup_nil
      idsLe := fun p hp => by cases hp
      doneOff := fun _ => rfl
      srcNone := List.forall_mem_append.2 ⟨h.srcNone, fun d hd _ => Or.inl (failDlv_none s d hd).2⟩
      sentWrote := fun p hp => by cases hp
      dlvWrote := List.forall_mem_append.2 ⟨h.dlvWrote, fun d hd id hid => by
        rw [(failDlv_none s d hd).1] at hid; cases hid⟩
      wroteOnce := fun c => by
        have := h.wroteOnce c
        simp only [written, List.count_nil] at *; omega
      unsFatal := fun c hc => List.mem_append_left _ (h.unsFatal c hc) }

theorem room_failConn {s : St} {ks : List Nat} (h : Room s ks) : Room (failConn s) ks := by
  rw [failConn_eq]
  split
  · exact h
  · intro c
    have := h c
    show ([] : List Nat).count c + written s c + ks.count c ≤ s.handed.count c
    simp only [List.count_nil]; omega

theorem go_eraseSent {s : St} {x : List Nat} {id : Nat} {it : Item} (h : GO s x)
    (hl : lookupSent s id = some it) : GO (eraseSent s id) (it.calls ++ x) :=
  { h with
    cnt := fun c => by
      have := h.cnt c
      have := occ_erase s.sent id (id, it) c h.idsNodup (lookupSent_some hl)
      simp only [base, eraseSent, List.count_append] at *; omega
    idsNodup := (List.filter_sublist.map _).nodup h.idsNodup
    idsLe := fun p hp => h.idsLe p (List.mem_filter.1 hp).1
    sentWrote := fun p hp => h.sentWrote p (List.mem_filter.1 hp).1 }

theorem go_sendFailed {s : St} {x : List Nat} (snd : Snd) (h : GO s x) : GO (sendFailed s snd) x :=
  sendFailed_cases (Q := fun s' => GO s' x) s snd
    (fun it hl => go_deliverItem it .connErr none (go_eraseSent (go_failConn h) hl) (fun _ => rfl)
      (fun id hid => by cases hid))
    (fun _ => go_failConn h)

theorem written_regSend (s : St) (w : Who) (it : Item) (c : Nat) :
    written (regSend s w it) c = written s c + it.calls.count c := by
  simp [written, regSend, List.map_append, List.count_append, Function.comp_def]

theorem go_regSend {s : St} {x : List Nat} (w : Who) (it : Item) (h : GO s (it.calls ++ x))
    (hroom : Room s it.calls) : GO (regSend s w it) x :=
  -- the new id `nextId + 1` is above every id in `sent` and in `wroteAs` (`idsLe`, `wroteLe`): that
  -- keeps the ids distinct and `sentWrote` apart for old and new entries
  { h with
    cnt := fun c => by
      have := h.cnt c
      simp only [base, regSend, occ_append, occ_single, List.count_append] at *; omega
    idsNodup := by
      simp only [regSend, List.map_append, List.map_cons, List.map_nil]
      refine nodup_snoc h.idsNodup (fun ha => ?_)
      obtain ⟨p, hp, e⟩ := List.mem_map.1 ha
      have := h.idsLe p hp
      omega
    idsLe := fun p hp => by
      simp only [regSend, List.mem_append, List.mem_singleton] at hp ⊢
      rcases hp with hp | rfl
      · have := h.idsLe p hp; omega
      · exact Nat.le_refl _
    sentWrote := fun p hp c => by
      simp only [regSend, List.mem_append, List.mem_singleton, List.mem_map] at hp ⊢
      rcases hp with hp | rfl
      · have hle := h.idsLe p hp
        rw [← h.sentWrote p hp c]
        constructor
        · rintro (h1 | ⟨a, _, h2⟩)
          · exact h1
          · injection h2 with _ h3; omega
        · exact Or.inl
      · constructor
        · rintro (h1 | ⟨a, ha, h2⟩)
          · exact absurd (h.wroteLe _ h1) (Nat.not_succ_le_self _)
          · injection h2 with h3 _; exact h3 ▸ ha
        · intro hc; exact Or.inr ⟨c, hc, rfl⟩
    wroteLe := fun p hp => by
      simp only [regSend, List.mem_append, List.mem_map] at hp ⊢
      rcases hp with hp | ⟨a, _, rfl⟩
      · have := h.wroteLe p hp; omega
      · exact Nat.le_refl _
    dlvWrote := fun d hd' id hid => List.mem_append_left _ (h.dlvWrote d hd' id hid)
    wroteOnce := fun c => by
      have := hroom c
      rw [written_regSend]
      simp only [regSend] at *; omega }

theorem go_senderAddN {s : St} {x : List Nat} (n : Nat) (w : Who) (h : GO s x) :
    GO (senderAddN s n w) x := { h with }

theorem go_startSend {s : St} {x : List Nat} (w : Who) (it : Item) (h : GO s (it.calls ++ x))
    (hroom : Room s it.calls) : GO (startSend s w it) x := by
  have h1 := go_regSend w it h hroom
  rw [startSend_eq]
  split
  · exact { h1 with }
  · exact go_senderAddN _ _ h1

theorem go_wlTaken {s : St} {x : List Nat} (h : GO s x) (hnd : s.done = false) :
    GO (wlTaken s) (wlLive s ++ x) :=
  { h with
    cnt := fun c => by
      have := h.cnt c
      have := count_take_drop s.offered s.queueSize c
      have := count_filter_add (s.offered.take s.queueSize) (fun c => s.ctxDone.contains c) c
      simp only [base, wlTaken, wlLive, List.count_append] at *; omega
    doneOff := fun hd => by
      have hd' : s.done = true := hd
      rw [hd'] at hnd; cases hnd
    droppedCtx := List.forall_mem_append.2 ⟨h.droppedCtx, fun c hc => by
      show c ∈ s.ctxDone
      simpa using (List.mem_filter.1 hc).2⟩
    wroteOnce := fun c => by
      have := h.wroteOnce c
      have := count_take_drop s.offered s.queueSize c
      simp only [written, wlTaken] at *; omega }

theorem go_writerLoop {s : St} {x : List Nat} (h : GO s x) : GO (writerLoop s) x := by
  refine writerLoop_ind (Q := fun s' => GO s' x) s h ?_ ?_ ?_
  · intro s' h; exact { h with }
  · intro s' h _ hnd; exact go_failLocal (wlLive s') (go_wlTaken h hnd)
  · intro s' h _ hnd
    refine go_startSend _ _ { go_wlTaken h hnd with } ?_
    -- the live calls of the batch leave the queue: they were counted there
    intro c
    have := h.wroteOnce c
    have := count_take_drop s'.offered s'.queueSize c
    have := count_filter_add (s'.offered.take s'.queueSize) (fun c => s'.ctxDone.contains c) c
    simp only [written, Item.calls, wlLive, wlTaken] at *; omega

theorem go_finishSend {s : St} {x : List Nat} (w : Who) (h : GO s x) : GO (finishSend s w) x :=
  finishSend_cases (Q := fun s' => GO s' x) s w (fun _ => go_writerLoop { h with })
    (fun _ => { h with })

theorem go_setPhase {s : St} {x : List Nat} (w : Who) (p : Phase) (h : GO s x) :
    GO (setPhase s w p) x := { h with }

theorem go_releaseWriteM {s : St} {x : List Nat} (h : GO s x) : GO (releaseWriteM s) x :=
  releaseWriteM_cases (Q := fun s' => GO s' x) s (fun _ _ => { h with }) { h with }

theorem go_senderAtM {s : St} {x : List Nat} (w : Who) (h : GO s x) : GO (senderAtM s w) x :=
  senderAtM_cases (Q := fun s' => GO s' x) s w (fun _ => go_finishSend w h)
    (fun _ => go_setPhase w _ h)

theorem go_readerFail {s : St} {x : List Nat} (h : GO s x) : GO (readerFail s) x :=
  readerFail_eq s ▸ go_failConn (s := { s with reader := .exited }) { h with }

theorem go_finishFrame {s : St} {x : List Nat} {id : Nat} {it : Item} {f : Frame}
    (h : GO s (it.calls ++ x)) (hf : f ≠ .badHeader) (hw : ∀ c ∈ it.calls, (c, id) ∈ s.wroteAs) :
    GO (finishFrame s id it f) x := by
  have hdl : GO { s with delivered := s.delivered ++ frameDlv id it f } x := by
    refine go_deliver _ h (fun c => dcount_frameDlv id it f c hf) ?_ ?_
    · intro d hd hn
      rw [(frameDlv_src id it f d hd).1] at hn; cases hn
    · intro d hd id' hid
      have := frameDlv_src id it f d hd
      rw [this.1] at hid; injection hid with hid
      exact hid ▸ hw _ this.2
  refine finishFrame_cases (Q := fun s' => GO s' x) s id it f ?_ (fun e => absurd e hf) ?_ ?_
  · intro hc; exact { go_drop it.calls h (mem_ctxDone_of_ctxEnded hc) with }
  · intro _; exact { hdl with }
  · intro _
    exact go_readerFail hdl

structure GR (s : St) : Prop where
  go : GO s s.reader.calls
  /-- the frame in the reader's hand has passed the header check, and its item was registered under
  the frame's id -/
  held : ∀ id it f, s.reader.held = some (id, it, f) →
    f ≠ .badHeader ∧ ∀ c ∈ it.calls, (c, id) ∈ s.wroteAs

theorem GR.holding {s : St} {id : Nat} {it : Item} {f : Frame} (h : GR s)
    (hh : s.reader.held = some (id, it, f)) :
    GO s it.calls ∧ f ≠ .badHeader ∧ ∀ c ∈ it.calls, (c, id) ∈ s.wroteAs :=
  ⟨Reader.calls_of_some hh ▸ h.go, h.held id it f hh⟩

theorem GR.idle {s : St} (h : GR s) (hr : s.reader = .reading) : GO s [] := by
  have := h.go; rw [hr] at this; exact this

theorem GR.places {s : St} (h : GR s) (c : Nat) : places s c = s.handed.count c := by
  rw [places_eq]; exact h.go.cnt c

theorem GR.delivered_once {s : St} (h : GR s) {d : Dlv} (hd : d ∈ s.delivered) :
    deliveredCount s d.call = 1 := by
  have := h.places d.call
  have := List.nodup_iff_count.1 h.go.handedNodup d.call
  have : 0 < deliveredCount s d.call := List.length_pos_of_mem (List.mem_filter.2 ⟨hd, by simp⟩)
  simp only [Conn.places] at *; omega

/-- a move that leaves the reader's hand alone -/
theorem gr_neutral {s s' : St} (h : GR s) (hgo : GO s' s.reader.calls)
    (hr : s'.reader.held = s.reader.held) (hw : ∀ p ∈ s.wroteAs, p ∈ s'.wroteAs) : GR s' where
  go := by rw [Reader.calls_congr hr]; exact hgo
  held id it f hh := by
    rw [hr] at hh
    exact ⟨(h.held id it f hh).1, fun c hc => hw _ ((h.held id it f hh).2 c hc)⟩

theorem gr_of_nil {s : St} (h : GO s []) (hr : s.reader.held = none) : GR s where
  go := by rw [Reader.calls_of_none hr]; exact h
  held id it f hh := by rw [hr] at hh; cases hh

/-- (`irr`: `mWait` and `armed` are irrelevant to ownership) -/
theorem gr_irr {s : St} (h : GR s) (mw : List MW) (a : Bool) :
    GR { s with mWait := mw, armed := a } := ⟨{ h.go with }, h.held⟩

theorem held_finishFrame (s : St) (id : Nat) (it : Item) (f : Frame) (hf : f ≠ .badHeader) :
    (finishFrame s id it f).reader.held = none := by
  have hn : (readerNext s).held = none :=
    readerNext_cases (Q := fun r => r.held = none) s (fun _ => rfl) (fun _ => rfl)
  exact finishFrame_cases (Q := fun s' => s'.reader.held = none) s id it f (fun _ => hn)
    (fun e => absurd e hf) (fun _ => hn) (fun _ => rfl)

theorem gr_failConn {s : St} (h : GR s) : GR (failConn s) :=
  gr_neutral h (go_failConn h.go) (failed_failConn _).held (ext_failConn (.refl s)).wrote

theorem gr_sendFailed {s : St} (snd : Snd) (h : GR s) : GR (sendFailed s snd) :=
  gr_neutral h (go_sendFailed snd h.go) (failed_sendFailed _ _).held (ext_sendFailed snd (.refl s)).wrote

theorem gr_finishSend {s : St} (w : Who) (h : GR s) : GR (finishSend s w) :=
  gr_neutral h (go_finishSend w h.go) (sending_finishSend s w).held (ext_finishSend w (.refl s)).wrote

theorem gr_releaseWriteM {s : St} (h : GR s) : GR (releaseWriteM s) :=
  gr_neutral h (go_releaseWriteM h.go) (sending_releaseWriteM s).held (ext_releaseWriteM (.refl s)).wrote

theorem gr_setPhase {s : St} (w : Who) (p : Phase) (h : GR s) : GR (setPhase s w p) :=
  gr_neutral h (go_setPhase w p h.go) rfl (fun _ hp => hp)

theorem gr_senderAtM {s : St} (w : Who) (h : GR s) : GR (senderAtM s w) :=
  gr_neutral h (go_senderAtM w h.go) (sending_senderAtM s w).held (ext_senderAtM w (.refl s)).wrote

theorem gr_senderAdd {s : St} (w : Who) (h : GR s) : GR (senderAdd s w) :=
  gr_neutral h (go_senderAddN _ w h.go) rfl (fun _ hp => hp)

theorem gr_writerLoop {s : St} (h : GR s) : GR (writerLoop s) :=
  gr_neutral h (go_writerLoop h.go) (sending_writerLoop s).held (ext_writerLoop (.refl s)).wrote

theorem gr_finishFrame {s : St} {id : Nat} {it : Item} {f : Frame} (h : GO s it.calls)
    (hf : f ≠ .badHeader) (hw : ∀ c ∈ it.calls, (c, id) ∈ s.wroteAs) :
    GR (finishFrame s id it f) :=
  gr_of_nil (go_finishFrame (x := []) (by rw [List.append_nil]; exact h) hf hw)
    (held_finishFrame _ _ _ _ hf)

theorem gr_readerAtM {s : St} {id : Nat} {it : Item} {f : Frame} (h : GO s it.calls)
    (hf : f ≠ .badHeader) (hw : ∀ c ∈ it.calls, (c, id) ∈ s.wroteAs) :
    GR (readerAtM s id it f) :=
  readerAtM_cases (Q := GR) s id it f
    (fun _ => ⟨{ h with }, fun _ _ _ hh => by cases hh; exact ⟨hf, hw⟩⟩)
    (fun _ => gr_finishFrame { h with } hf hw)

theorem gr_releaseM {s : St} (h : GR s) : GR (releaseM s) := by
  refine wakeM_ind (Q := GR) _ s h ?_ ?_ ?_ ?_
  · intro s w rest h _ _ _; exact gr_senderAdd w (gr_irr h rest _)
  · intro s w rest h _ _ _; exact gr_senderAtM w (gr_irr h rest _)
  · intro s id it f rest h _ _ hr
    obtain ⟨h0, hf, hw⟩ := h.holding (by rw [hr]; rfl)
    exact gr_readerAtM (s := { s with mWait := rest }) { h0 with } hf hw
  · intro s e rest h _ _ _; exact gr_irr h rest _

theorem gr_readerFail {s : St} (h : GO s []) : GR (readerFail s) := gr_of_nil (go_readerFail h) rfl

theorem go_unregister {s : St} {id : Nat} {it : Item} (h : GR s) (hr : s.reader = .reading)
    (hl : lookupSent s id = some it) :
    GO (eraseSent s id) it.calls ∧ ∀ c ∈ it.calls, (c, id) ∈ s.wroteAs := by
  have h1 := go_eraseSent (h.idle hr) hl
  rw [List.append_nil] at h1
  exact ⟨h1, fun c hc => (h.go.sentWrote _ (lookupSent_mem hl) c).2 hc⟩

theorem gr_cleared {s : St} {id : Nat} {it : Item} {f : Frame} (h : GR s)
    (hr : s.reader = .clearing id it f) :
    GR (finishFrame { s with armed := false, reader := .reading } id it f) := by
  obtain ⟨h0, hf, hw⟩ := h.holding (by rw [hr]; rfl)
  exact gr_finishFrame { h0 with } hf hw

theorem gr_clearErr {s : St} {id : Nat} {it : Item} {f : Frame} (h : GR s)
    (hr : s.reader = .clearing id it f) :
    GR (readerFail (deliverItem s it .connErr none)) := by
  obtain ⟨h0, _, _⟩ := h.holding (by rw [hr]; rfl)
  exact gr_readerFail (go_deliverItem it .connErr none (by rw [List.append_nil]; exact h0)
    (fun _ => rfl) (fun _ e => by cases e))

theorem gr_step {s s' : St} (h : GR s) (hs : Step s s') : GR s' := by
  have hw := (ext_step hs).wrote
  cases hs with
  | refused c hc =>
    exact gr_neutral h (go_deliverItem (.single c) .connErr none (go_hand h.go hc) (fun _ => rfl)
      (fun _ e => by cases e)) rfl hw
  | gaveUp c hc hx =>
    refine gr_neutral h (go_drop [c] (go_hand h.go hc) ?_) rfl hw
    intro c' hc'; rw [List.mem_singleton.1 hc']; exact hx
  | batched c poison hc hx hd =>
    exact gr_neutral h (go_writerLoop { go_offer (go_hand h.go hc) hd (room_hand h.go c) with })
      (sending_writerLoop _).held hw
  | direct c hc =>
    exact gr_neutral h (go_startSend _ _ (go_hand h.go hc) (room_hand h.go c))
      (sending_startSend _ _ _).held hw
  | directClosing c hc =>
    exact gr_neutral h
      (go_startSend _ _ (go_failConn (go_hand h.go hc)) (room_failConn (room_hand h.go c)))
      ((sending_startSend _ _ _).held.trans (failed_failConn _).held) hw
  | unsendable c hc => exact gr_neutral h (go_failLocal [c] (go_hand h.go hc)) rfl hw
  | cancel c => exact gr_neutral h (go_cancel c h.go) rfl hw
  | wrotePart => exact h
  | writeErr w x => exact gr_finishSend w (gr_sendFailed x (gr_releaseWriteM h))
  | wroteBusy w => exact gr_irr (gr_setPhase w .armWait (gr_releaseWriteM h)) _ _
  | wrote w => exact gr_senderAtM w (gr_releaseWriteM h)
  | armed w => exact gr_releaseM (gr_finishSend w (gr_irr h _ true))
  | armErr w x => exact gr_releaseM (gr_finishSend w (gr_sendFailed x h))
  | readerFails hr => exact gr_readerFail (h.idle hr)
  | readBusy id it f hr hf hl =>
    obtain ⟨h1, hw⟩ := go_unregister h hr hl
    exact ⟨{ h1 with }, fun id' it' f' hh => by cases hh; exact ⟨hf, hw⟩⟩
  | read id it f hr hf hl =>
    obtain ⟨h1, hw⟩ := go_unregister h hr hl
    exact gr_readerAtM h1 hf hw
  | cleared id it f hr => exact gr_releaseM (gr_cleared h hr)
  | clearErr id it f hr => exact gr_releaseM (gr_clearErr h hr)
  | closed => exact gr_failConn h

theorem gr_init (q : Nat) : GR (init q) where
  go := {
    cnt := fun c => rfl
    handedNodup := List.nodup_nil
    idsNodup := List.nodup_nil
    idsLe := fun p hp => by cases hp
    doneOff := fun hd => by cases hd
    droppedCtx := fun c hc => by cases hc
    srcNone := fun d hd => by cases hd
    sentWrote := fun p hp => by cases hp
    wroteLe := fun p hp => by cases hp
    dlvWrote := fun d hd => by cases hd
    wroteOnce := fun c => Nat.le_refl _
    unsFatal := fun c hc => by cases hc }
  held id it f hh := by cases hh

theorem gr_of_reachable {q : Nat} {s : St} (h : Reachable q s) : GR s :=
  reachable_ind (gr_init q) gr_step h

end GV.Conn
