import GohbaseVerif.Gen.Exits
import GohbaseVerif.Lemmas.ConnCache
import GohbaseVerif.Gen.Selects
/-!
# C20 — One connection per regionserver

Model: `Model/ConnCache.lean`; invariant `Good` in `Lemmas/ConnCache.lean`.  All theorems hold for both
variants of `put` (`flag = true`: `put` returns nil once `closeAll` has closed the cache), over every
interleaving of `put` / `del` / `clientDown` / `Dial` / `Close`.
-/
namespace GV.ConnCache
open GV.Gen.Selects

/-- No two cached connection objects share an address. -/
theorem addr_unique {flag : Bool} {s : State} (h : Reachable flag s) :
    (s.cache.map (·.addr)).Nodup ∧
    ∀ e1 ∈ s.cache, ∀ e2 ∈ s.cache, e1.addr = e2.addr → e1 = e2 :=
  ⟨(good_of_reachable h).addrNodup, fun _ h1 _ h2 => eq_of_nodup_map (·.addr) (good_of_reachable h).addrNodup h1 h2⟩

/-- three regions on two servers, discovered concurrently, with a connection failure between -/
def demo : List Action :=
  [.spawnEstablish, .spawnEstablish, .estPut 5 1, .estPut 6 2, .estPut 5 3, .dial 0, .dial 0, .dial 1,
   .clientDown 0, .estPut 5 1, .dial 2, .del 1 2]

example : (run true init demo).map (·.cache) = some [⟨2, 5, [1]⟩, ⟨1, 6, []⟩] := by decide
example : (run true init demo).map (fun s => s.conns.map fun c => (c.id, c.addr, c.down))
    = some [(2, 5, false), (1, 6, false), (0, 5, true)] := by decide
example : (run true init demo).map (fun s => s.conns.map fun c => (c.dials, c.dialCalls))
    = some [(1, 1), (1, 1), (1, 2)] := by decide

/-- negative: a `put` that did not look the address up under the same lock (insert
unconditionally) breaks the property — the invariant is not vacuous -/
example : ¬ (([⟨1, 5, [2]⟩, ⟨0, 5, [1]⟩] : List Entry).map (·.addr)).Nodup := by decide

/-- The dialer of a connection object runs at most once, however many goroutines call `Dial`
(all establishers of regions on that server do). -/
theorem dial_once_per_connection {flag : Bool} {s : State} (h : Reachable flag s) :
    ∀ c ∈ s.conns, c.dials ≤ 1 ∧ c.dials ≤ c.dialCalls := by
  intro c hc
  obtain ⟨h1, h2⟩ := (good_of_reachable h).dialOK c hc
  refine ⟨?_, h2⟩
  rw [h1]; split <;> omega

/-- the dial happens under `dialOnce` in the source, and nothing else is a bare `Once` there -/
theorem dial_under_once :
    (bareOps.filter (·.fn = "client.Dial")) = [⟨"region", "client.Dial", "do", "c.dialOnce"⟩] := by
  simp [bareOps]

example : (run true init [.spawnEstablish, .estPut 5 1, .dial 0, .dial 0, .dial 0]).map
    (fun s => s.conns.map fun c => (c.dials, c.dialCalls)) = some [(1, 3)] := by decide

/-- `put` for an address that has a cached connection returns that connection and creates
nothing (while the cache is open; a closed cache returns nil and creates nothing either). -/
theorem healthy_reused (flag : Bool) (s : State) (addr reg : Nat) (hex : ∃ e ∈ s.cache, e.addr = addr) :
    (put flag s addr reg).1.conns = s.conns ∧ (put flag s addr reg).1.nextId = s.nextId ∧
    ((flag && s.closeAllDone) = false →
      ∃ e ∈ s.cache, e.addr = addr ∧ (put flag s addr reg).2 = .existing e.id) ∧
    ((flag && s.closeAllDone) = true → (put flag s addr reg) = (s, .refused)) := by
  unfold put
  cases hfl : (flag && s.closeAllDone) with
  | true => simp
  | false =>
    simp only [Bool.false_eq_true, if_false]
    cases hf : s.cache.find? (·.addr == addr) with
    | none =>
      obtain ⟨e, he, ha⟩ := hex
      exact absurd ha (find_none_addr hf e he)
    | some e =>
      have hm := List.mem_of_find?_eq_some hf
      have ha : e.addr = addr := by simpa using List.find?_some hf
      exact ⟨rfl, rfl, fun _ => ⟨e, hm, ha, rfl⟩, fun h => by cases h⟩

/-- in a reachable state it is *the* cached connection of that address -/
theorem healthy_reused_unique {flag : Bool} {s : State} (h : Reachable flag s) (addr reg : Nat)
    (hopen : (flag && s.closeAllDone) = false) (e : Entry) (he : e ∈ s.cache) (ha : e.addr = addr) :
    (put flag s addr reg).2 = .existing e.id := by
  obtain ⟨_, _, h3, _⟩ := healthy_reused flag s addr reg ⟨e, he, ha⟩
  obtain ⟨e', he', ha', hr⟩ := h3 hopen
  rw [hr, (addr_unique h).2 e he e' he' (ha.trans ha'.symm)]

example : (put true { cache := [⟨0, 5, [1]⟩], conns := [{ id := 0, addr := 5 }], nextId := 1 } 5 9).2
    = .existing 0 := by decide
example : (put true { cache := [⟨0, 5, [1]⟩], conns := [{ id := 0, addr := 5 }], nextId := 1 } 6 9).2
    = .created 1 := by decide
def closedCache : State where
  cache := [⟨0, 5, [1]⟩]
  conns := [{ id := 0, addr := 5, closed := true }]
  nextId := 1
  onceStarted := true
  closeAllDone := true
/-- after `closeAll` even a cached address yields nil, and nothing is created -/
example : put true closedCache 5 9 = (closedCache, .refused) := by decide

/-- The (k+1)-th connection object for an address is created only after `clientDown` of the
k-th: of two connection objects with the same address, the older has been declared dead. -/
theorem new_only_after_declared_dead {flag : Bool} {s : State} (h : Reachable flag s) :
    ∀ c1 ∈ s.conns, ∀ c2 ∈ s.conns, c1.addr = c2.addr → c1.id < c2.id → c1.down = true :=
  (good_of_reachable h).olderDown

/-- and a connection that has not been declared dead is still the cached one for its address -/
theorem live_connection_is_cached {flag : Bool} {s : State} (h : Reachable flag s) :
    ∀ c ∈ s.conns, c.down = false → ∃ e ∈ s.cache, e.id = c.id ∧ e.addr = c.addr :=
  (good_of_reachable h).live

/-- negative: without the intervening `clientDown` no second object appears -/
example : (run true init [.spawnEstablish, .estPut 5 1, .estPut 5 2, .estPut 5 3]).map
    (fun s => s.conns.length) = some 1 := by decide

open GV.Gen

/-- Regenerated from region/new.go: the dialer is called only inside `dialOnce.Do`. -/
theorem dialer_only_under_once_in_source : Exits.dialerOnlyInsideOnce = true := by decide

end GV.ConnCache
