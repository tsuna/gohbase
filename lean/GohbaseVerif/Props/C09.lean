import GohbaseVerif.Gen.Exits
import GohbaseVerif.Lemmas.Avail
import GohbaseVerif.Gen.Selects
import GohbaseVerif.Gen.RetryLoop
/-!
# C09 — Concurrent failures never crash the client or strand a waiting request

Model: `Model/Avail.lean` (coverage and over-approximations are stated there); invariant:
`Lemmas/Avail.lean`.  The tie to the source is the regenerated `Gen.Selects.goStmts`: which `go`
statements start establishers and under which guard.
-/
namespace GV.Avail
open GV.Gen.Selects

/-- No reachable state has taken the `close(nil)` transition: `MarkAvailable` is never called on
an available region, under every interleaving of requesters, handlers, `clientDown`, `Close`
and establishers. -/
theorem mark_available_never_faults {s : State} (h : Reachable s) : s.fault = false :=
  (good_of_reachable h).nofault

/-- the same, as a statement about the next step: a release is only ever attempted on an
unavailable region -/
theorem release_finds_channel {s : State} (h : Reachable s) (r : Nat)
    (hp : PC.release ∈ (s.regs r).ests) : (s.regs r).avail ≠ none :=
  ((good_of_reachable h).regs r).avail_of_mem hp

/-- a full outage and repair of the meta region -/
def demoRepair : List Action :=
  [.mark 0, .estStart 0, .estSleep 0 true false, .estLookup 0 .same, .estDial 0 (.ok 7), .estRelease 0]

example : (run init demoRepair).map (fun s => (s.fault, (s.regs 0).avail, (s.regs 0).client, s.closes))
    = some (false, none, some 7, [(0, 0)]) := by decide

/-- negative (the fault is real in the model): in a state with two parties responsible for one
object — which the invariant excludes — the second release is `close(nil)`. -/
example :
    let bad : State := { regs := fun _ => { used := true, published := true, avail := some 0, gen := 1,
                                            ests := [.release, .release] } }
    (run bad [.estRelease 0, .estRelease 0]).map (·.fault) = some true := by decide

/-- Every unavailable region object has exactly one responsible establisher, or is a fresh object that
was never published, or the client has been closed (marked by `closeAll`, or its establisher left
through a `done` / `ErrClientClosed` exit).  Conversely an establisher is only ever responsible for an
unavailable object, and never two for one object. -/
theorem token_invariant {s : State} (h : Reachable s) (r : Nat) :
    ((s.regs r).avail ≠ none →
        (s.regs r).ests.length = 1 ∨ (s.regs r).published = false ∨ s.closed = true) ∧
    (s.regs r).ests.length ≤ 1 ∧
    ((s.regs r).ests ≠ [] → (s.regs r).avail ≠ none) := by
  have hg := (good_of_reachable h).regs r
  exact ⟨hg.tok, hg.le1, fun hne hn => hne (hg.held hn)⟩

/-- non-vacuity: all three alternatives occur -/
example : (run init [.mark 0]).map (fun s => ((s.regs 0).avail, (s.regs 0).ests)) =
    some (some 0, [.spawned]) := by decide
example : (run init [.findRegion 1 false]).map
    (fun s => ((s.regs 1).avail, (s.regs 1).ests, (s.regs 1).published)) = some (some 0, [], false) := by
  decide
example : (run init [.close, .closeAllMark 0]).map
    (fun s => ((s.regs 0).avail, (s.regs 0).ests, s.closed)) = some (some 0, [], true) := by decide

/-- Each channel generation of each region object is closed exactly once, except the one that is
open now (not yet closed); nothing is closed that was not created. -/
theorem released_exactly_once_per_outage {s : State} (h : Reachable s) (r g : Nat) :
    s.closes.count (r, g) =
      if g < (s.regs r).gen ∧ (s.regs r).avail ≠ some g then 1 else 0 :=
  (good_of_reachable h).regs r |>.log g

/-- two outages of the same region: generations 0 and 1 each closed once -/
example : (run init (demoRepair ++ demoRepair)).map (fun s => (s.closes, (s.regs 0).gen)) =
    some ([(0, 1), (0, 0)], 2) := by decide

/-- Whenever a step makes an establisher leave a region object (any `return` of `establishRegion` /
`reestablishRegion`), that same step closed the region's open channel (`MarkAvailable`: available
afterwards, closure logged) or the client had been closed (`<-c.done` in `reestablishRegion`,
`ErrClientClosed` from the lookup, nil from `clients.put`). -/
theorem establisher_releases_on_every_exit {s s' : State} {a : Action} (hr : Reachable s)
    (h : step s a = some s') (i : Nat)
    (hlt : (s'.regs i).ests.length < (s.regs i).ests.length) :
    (∃ g, (s.regs i).avail = some g ∧ (s'.regs i).avail = none ∧ s'.closes = (i, g) :: s.closes) ∨
      s.closed = true :=
  (step_inv (good_of_reachable hr) h).exits i hlt

/-- non-vacuity: an exit through release, and the exits allowed only after `Close` -/
example : (run init [.mark 0, .close, .estStart 0]).map
    (fun s => ((s.regs 0).ests, (s.regs 0).avail, s.closed)) = some ([], some 0, true) := by decide
example : (run init [.mark 0, .estStart 0, .estSleep 0 true false, .close, .estLookup 0 .clientClosed]).map
    (fun s => ((s.regs 0).ests, (s.regs 0).avail)) = some ([], some 0) := by decide
/-- `clients.put` refuses after `closeAll` -/
example : (run init [.findRegion 1 true, .estSleep 1 false false, .close, .closeAllMark 1, .estDial 1 .cacheClosed]).map
    (fun s => ((s.regs 1).ests, (s.regs 1).avail)) = some ([], some 0) := by decide
example : run init [.findRegion 1 true, .estSleep 1 false false, .estDial 1 .cacheClosed] = none := by decide
/-- negative: before `Close` the `ErrClientClosed` exit is not enabled -/
example : run init [.mark 0, .estStart 0, .estSleep 0 true false, .estLookup 0 .clientClosed] = none := by
  decide

/-- An establisher can always take its next step: it never waits for another goroutine of the client,
only for the back-off sleep and network answers, which end. -/
theorem establisher_never_stuck (s : State) (r : Nat) (p : PC) (hp : p ∈ (s.regs r).ests) :
    ∃ a s', step s a = some s' := by
  cases p with
  | spawned =>
    refine ⟨.estStart r, ?_⟩
    by_cases hc : s.closed <;> simp [step, hp, hc]
  | sleepL => refine ⟨.estSleep r true false, ?_⟩; simp [step, sleepPC, hp]
  | sleepD => refine ⟨.estSleep r false false, ?_⟩; simp [step, sleepPC, hp]
  | lookup => refine ⟨.estLookup r .tableNotFound, ?_⟩; simp [step, hp, stepLookup]
  | haveAddr => refine ⟨.estDial r .canceled, ?_⟩; simp [step, hp, stepDial]
  | release => refine ⟨.estRelease r, ?_⟩; simp [step, hp]

/-- When the client is not closed and no establisher is running, every published region object
is available: no waiter is left behind a channel nobody will close. -/
theorem quiescent_all_available {s : State} (h : Reachable s) (hc : s.closed = false)
    (hq : ∀ r, (s.regs r).ests = []) (r : Nat) (hp : (s.regs r).published = true) :
    (s.regs r).avail = none := by
  have hg := (good_of_reachable h).regs r
  cases hav : (s.regs r).avail with
  | none => rfl
  | some g =>
    have := hg.tok (by rw [hav]; intro h'; cases h')
    rw [hq r, hp, hc] at this
    simp at this

/-- non-vacuity: a quiescent open state after a split was discovered (object 0 replaced by 1) -/
def demoSplit : List Action :=
  [.mark 0, .estStart 0, .estSleep 0 true false, .estLookup 0 (.newReplaced 1), .markDead 0,
   .setClientNil 0, .estRelease 0, .estDial 1 (.ok 3), .estRelease 1]
example : (run init demoSplit).map (fun s => (s.closed, (s.regs 0).ests, (s.regs 1).ests))
    = some (false, [], []) := by decide
example : (run init demoSplit).map (fun s => ((s.regs 0).avail, (s.regs 1).avail, (s.regs 1).client))
    = some (none, none, some 3) := by decide
/-- negative: after `Close` a region may stay unavailable with nobody responsible (by design:
waiters are released through `c.done` instead, C19) -/
example : (run init [.close, .closeAllMark 0]).map (fun s => ((s.regs 0).avail, (s.regs 0).ests)) =
    some (some 0, []) := by decide

/-! ## The waiter re-checks after waking up (`getRegionAndClientForRPC`) -/

/-- A pass never hands out a nil client: what it returns is the client it read last. -/
theorem waiter_never_returns_nil (o : Obs) (c : Nat) (b : Bool) (h : pass o = (.ret c, b)) :
    o.client0 = some c ∨ (o.client0 = none ∧ o.dead = false ∧ o.client1 = some c) := by
  by_cases hw0 : o.chan0 = true ∧ o.wake0 ≠ .avail
  · rcases pass_blocked o hw0 with h' | h' <;> rw [h] at h' <;> cases h'
  · cases h0 : o.client0 with
    | some c0 =>
      rw [pass_first o hw0 h0] at h
      cases h; exact Or.inl rfl
    | none => exact Or.inr ⟨rfl, pass_second_ret o hw0 h0 h⟩

/-- Full statement: "after a wake-up, a dead region or a nil client leads to re-resolution".
Proved here: after the second wait (the path taken whenever the first `reg.Client()`, `Obs.client0`,
was nil) a dead region or a still-nil client leads to re-resolution; with `waiter_never_returns_nil`
the nil-client half holds in full.
EXCLUDED (`_partial`): a region already dead while the first `reg.Client()` is still non-nil —
the first path does not look at `reg.Context()`; witness and reason below. -/
theorem waiter_rechecks_partial (o : Obs) (h0 : o.client0 = none)
    (hw0 : ¬ (o.chan0 = true ∧ o.wake0 ≠ .avail)) (hw1 : ¬ (o.chan1 = true ∧ o.wake1 ≠ .avail))
    (hbad : o.dead = true ∨ o.client1 = none) :
    (pass o).1 = .retry := by
  rw [pass_second o hw0 h0]
  dsimp only
  rw [if_neg (not_blocked hw1 (by decide)), if_neg (not_blocked hw1 (by decide))]
  rcases hbad with hd | hc
  · rw [if_pos hd]
  · rw [hc]; split <;> rfl

/-- the requester starts an establisher exactly when its `MarkUnavailable` created the channel -/
theorem waiter_spawns_iff_created (o : Obs) (h0 : o.client0 = none)
    (hw0 : ¬ (o.chan0 = true ∧ o.wake0 ≠ .avail)) : (pass o).2 = o.created := by
  rw [pass_second o hw0 h0]

example : pass ⟨true, .avail, none, false, true, .avail, true, some 4⟩ = (.retry, false) := by decide
example : pass ⟨false, .avail, none, true, true, .avail, false, some 4⟩ = (.ret 4, true) := by decide

/- The window of the excluded case exists (`regions.put` marks an overlapped region dead before
`clients.del` clears its client).  The call is then sent for a region that was replaced, the server
answers NotServingRegion and `handleResultError` takes over: no crash and no stranded waiter, hence an
exclusion of `waiter_rechecks_partial` and not a defect. -/
/-- the excluded case: region dead, client still set at the first `reg.Client()` → used -/
example : pass ⟨true, .avail, some 4, false, false, .avail, true, none⟩ = (.ret 4, false) := by decide

open GV.Gen

/-! ## The source: where establishers are started, and what the steps of the model rest on

How the table facts are evaluated is said in DESIGN.md §14.7. -/

/-- Every `go c.reestablishRegion(x)` in the source sits directly under `if x.MarkUnavailable()`:
only the goroutine that created the channel starts the establisher (model action `mark`). -/
theorem reestablish_always_guarded :
    ∀ g ∈ goStmts, g.call = "c.reestablishRegion" →
      (g.guard = "reg.MarkUnavailable()" ∨ g.guard = "downreg.MarkUnavailable()") := by simp [goStmts]

/-- the guards name the same variable the establisher is started for (the extractor gives the
condition text; both spellings occur) and there are exactly five such statements -/
theorem reestablish_sites :
    (goStmts.filter (·.call = "c.reestablishRegion")).map (fun g => (g.fn, g.guard)) =
      [("client.clientDown", "reg.MarkUnavailable()"),
       ("client.clientDown", "downreg.MarkUnavailable()"),
       ("client.getRegionAndClientForRPC", "reg.MarkUnavailable()"),
       ("client.handleResultError", "reg.MarkUnavailable()"),
       ("client.handleResultError", "reg.MarkUnavailable()")] := by simp [goStmts]

/-- The only unguarded starts of an establisher are the two `go c.establishRegion(reg, addr)` of
`findRegion` / `findAllRegions`, on the fresh object they have just marked unavailable (model action
`findRegion`); nothing else in the client package starts one. -/
theorem establish_unguarded_only_fresh :
    (goStmts.filter (fun g => g.call = "c.establishRegion" || g.call = "c.reestablishRegion")).filter
        (·.guard = "") =
      [⟨"gohbase", "client.findAllRegions", "c.establishRegion", ""⟩,
       ⟨"gohbase", "client.findRegion", "c.establishRegion", ""⟩] := by simp [goStmts]

/-- The establisher's back-off sleep watches the *region's* context (so it ends early exactly when
the region is dead — model: `estSleep … err` needs `dead`), and `reestablishRegion` looks at
`c.done` once, without blocking, before anything else (model: `estStart`). -/
theorem establisher_waits_in_source :
    GV.Gen.RetryLoop.establishRegion_sleepCtx = ["reg.Context()"] ∧
    (selects.filter (·.fn = "client.reestablishRegion")).map (·.cases) = [["default", "recv:c.done"]] := by
  simp [selects, GV.Gen.RetryLoop.establishRegion_sleepCtx]

example : (goStmts.filter (·.call = "c.reestablishRegion")).length = 5 := by simp [goStmts]
/-- negative: an unguarded `go c.reestablishRegion` would be rejected -/
example : ¬ (∀ g ∈ (⟨"gohbase", "client.x", "c.reestablishRegion", ""⟩ :: goStmts),
    g.call = "c.reestablishRegion" →
      (g.guard = "reg.MarkUnavailable()" ∨ g.guard = "downreg.MarkUnavailable()")) := by decide +kernel

/-- Regenerated from rpc.go: every `return` of `establishRegion` is preceded, in its own block, by a
`MarkAvailable` call — except exactly the test-override return (0) and the two client-closed returns
(4: the lookup reported ErrClientClosed; 6: the connection cache refused the client): the source-level
counterpart of `establisher_releases_on_every_exit`. -/
theorem establish_exits_release_in_source :
    Exits.shapeOk = true ∧
    ((Exits.exits.filter (fun e => e.fn == "establishRegion" &&
        !(e.calls.any (fun c => c == "reg.MarkAvailable" || c == "originalReg.MarkAvailable")))).map (·.ord)) = [0, 4, 6] ∧
    (Exits.exits.filter (fun e => e.fn == "establishRegion")).length = 10 := by decide +kernel


/-- Regenerated from rpc.go: when the re-lookup inside `establishRegion` finds *another* region (`reg`
is rebound, `originalReg` keeps the region whose waiters are parked), the original is released on both
outcomes of `regions.put`: exactly the exits 2, 3 (region gone / dead while looking up) and 5 ("put
refused") call `originalReg.MarkAvailable`, and between `c.regions.put(reg)` and the creation of the
connection there are two such calls — the refused-put return and the replaced-and-continue path.
Dropping either parks the waiters of a merged/split-away region for ever (`merge-ordered`; in the
model `newNotReplaced` / `newReplaced` both move the original region to `release`). -/
theorem original_region_released_on_replacement_in_source :
    ((Exits.exits.filter (fun e => e.fn == "establishRegion" &&
        e.calls.contains "originalReg.MarkAvailable")).map (·.ord)) = [2, 3, 5] ∧
    (((Exits.publishSites.filter (·.1 == "establishRegion")).map (fun p =>
        (((p.2.dropWhile (· != "c.regions.put(reg)")).takeWhile (· != "c.newRegionClientFn")).filter
          (· == "originalReg.MarkAvailable")).length)) = [2]) := by decide +kernel

/-- Regenerated from rpc.go: `establishRegion`'s retry loop ends with `addr = ""`, so every iteration
that did not return (failed dial, refused probe, connection lost) is followed by a fresh lookup
(`stepDial`: `.notServing`, `.serverError` lead to `sleepL`).  Keeping the address would probe the old
server for ever while the region has opened elsewhere (`probe-refused-then-moved`). -/
theorem establish_loop_looks_up_again_in_source : Exits.establishLoopEndsWithAddrReset = true := by decide

/-- In a list of calls in source order: every `c.regions.put(reg)` has a `reg.MarkUnavailable`
before it with no `reg.MarkAvailable` in between. -/
def markedBeforePut : Bool → List String → Bool
  | _, [] => true
  | marked, c :: rest =>
    if c == "reg.MarkUnavailable" then markedBeforePut true rest
    else if c == "reg.MarkAvailable" then markedBeforePut false rest
    else if c == "c.regions.put(reg)" then marked && markedBeforePut marked rest
    else markedBeforePut marked rest

/-- Regenerated from rpc.go: the three functions that publish a freshly parsed region object
(`findRegion`, `findAllRegions`, `establishRegion`) mark it unavailable *before* `regions.put` makes it
reachable.  This lets the model treat "create, mark, publish, start the establisher" as one step
(`Action.findRegion`, `LookupRes.newReplaced`): while the object is private nobody else's
`MarkUnavailable` returns true for it, so the goroutine started afterwards is the only establisher.
Marking after publishing would allow a second one, whose `MarkAvailable` is the `close(nil)`. -/
theorem published_regions_are_marked_first_in_source :
    Exits.publishSites.map (·.1) = ["findRegion", "findAllRegions", "establishRegion"] ∧
    (∀ p ∈ Exits.publishSites, p.2.contains "c.regions.put(reg)" = true ∧ markedBeforePut false p.2 = true) := by
  decide +kernel

example : markedBeforePut false ["c.lookupRegion", "c.regions.put(reg)", "reg.MarkUnavailable"] = false := by
  decide +kernel

/-- Regenerated from rpc.go: both waits of `getRegionAndClientForRPC` select on a channel value `ch`
read *once* from `reg.AvailabilityChan()` (and on the caller's context and `c.done`): one snapshot
decides both whether to wait and on what (`Obs.chan0` / `Obs.chan1`).  Reading the availability twice
lets `MarkAvailable` slip in between: the second read returns nil and the waiter blocks for ever on a
nil channel although its region is available. -/
theorem waiter_waits_on_the_channel_it_checked_in_source :
    (GV.Gen.Selects.selects.filter (fun s => s.fn == "client.getRegionAndClientForRPC")).map (·.cases)
      = [["recv:c.done", "recv:ch", "recv:ctx.Done()"], ["recv:c.done", "recv:ch", "recv:ctx.Done()"]] := by
  -- `==`: `String.reduceBEq` would evaluate `String.decEq`; without it `simp` makes it `=`
  simp [selects, -String.reduceBEq]

/-- Regenerated from client.go (`MarshalJSON`, what `gohbase.DebugState` renders): both caches are read
in place, through pointers, so that `debugInfo` takes the locks the writers take.  A copy has a lock of
its own and shares the map and the tree: the rendering races with every writer, and a lock copied
while held is never released (`debug-state-with-writer-on-*` on a seeded change). -/
theorem debug_state_reads_the_caches_in_place_in_source :
    GV.Gen.Exits.debugStateCacheRefs
      = ["rcc := &c.clients", "krc := &c.regions", "rcc.debugInfo", "krc.debugInfo"] := rfl

end GV.Avail
