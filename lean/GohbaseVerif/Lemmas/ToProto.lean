import GohbaseVerif.Model.ToProto
/-! What `ToProto` builds decodes to what the caller meant.  Field by field: a value elided because it is
the default comes back as that default (`optIf_*`); for `multi.toProto`: the walk over the region
actions gives `Spec.multiIntent` (`decodeMulti_intent`), which holds every live call
(`multi_complete`), nothing else (`multi_sound`), none twice (`multi_once`). -/
namespace GV.ToProto
open GV

theorem optIf_bne_getD {α} [BEq α] [LawfulBEq α] (v d : α) : (optIf (v != d) v).getD d = v := by
  unfold optIf
  by_cases h : v = d <;> simp [h]

theorem optIf_true_getD (b : Bool) : (optIf b true).getD false = b := by
  cases b <;> rfl

theorem optIf_ts (t : Nat) :
    optIf (t != maxTimestamp) t = if t = maxTimestamp then none else some t := by
  unfold optIf
  by_cases h : t = maxTimestamp <;> simp [h]

theorem decodeColumns_familiesToColumn (ord : Families) :
    Spec.decodeColumns (familiesToColumn ord) = ord := by
  rw [Spec.decodeColumns, familiesToColumn, List.map_map]
  exact List.map_id ord

theorem consistencyField_ok (c : Consistency) (h : c ≠ .invalid) :
    ∃ o, consistencyField c = .ok o ∧ o.getD .strong = Spec.intentConsistency c := by
  cases c with
  | default => exact ⟨none, rfl, rfl⟩
  | strong => exact ⟨some .strong, rfl, rfl⟩
  | timeline => exact ⟨some .timeline, rfl, rfl⟩
  | invalid => exact absurd rfl h

theorem consistencyField_invalid : consistencyField .invalid = .fault "invalid value for ConsistencyType" := rfl

theorem mutationBase_ok (m : MutateCall) (h : m.durability < 5) :
    mutationBase m = .ok
      { row := m.key, mutateType := some m.mutType, columnValue := []
        timestamp := optIf (m.timestamp != maxTimestamp) m.timestamp
        attrs := if 0 < m.ttl.length then [(attributeNameTTL, m.ttl)] else []
        durability := some m.durability, associatedCellCount := none } := by
  simp only [mutationBase, h, if_true]

theorem decodeTTL_attrs (ttl : Bytes) :
    Spec.decodeTTL (if 0 < ttl.length then [(attributeNameTTL, ttl)] else [])
      = if 0 < ttl.length then some ttl else none := by
  by_cases h : 0 < ttl.length <;> simp [h, Spec.decodeTTL]

theorem decode_effectiveInner (m : MutateCall) (inner : Option (List (Bytes × Bytes))) :
    ((effectiveInner m inner).map fun qv =>
        ({ qualifier := qv.1, value := qv.2,
           ts := if m.timestamp = maxTimestamp then none else some m.timestamp,
           kind := Spec.kindOfDelete (deleteTypeOf m inner) } : Spec.CellSpec))
      = Spec.intentCells m inner := by
  unfold Spec.intentCells effectiveInner deleteTypeOf
  by_cases hd : m.mutType = .delete
  · -- whole family (no qualifiers given) or the listed qualifiers; one version or all
    by_cases h0 : (inner.getD []).length = 0 <;> cases m.deleteOneVersion <;>
      simp [hd, h0, Spec.kindOfDelete]
  · simp [hd, Spec.kindOfDelete]

/-- The left-hand side is the `cells :=` of `Spec.decodeMutation` as the `simp only` of `mutate_fidelity`
leaves it: it fires there only while it matches that text. -/
theorem decode_valuesToProto (m : MutateCall) (vals : Values) :
    ((valuesToProto m vals (if m.timestamp = maxTimestamp then none else some m.timestamp)).map fun cv =>
        (cv.family, cv.qualifierValue.map fun qv =>
          ({ qualifier := qv.qualifier, value := qv.value, ts := qv.timestamp
             kind := Spec.kindOfDelete qv.deleteType } : Spec.CellSpec)))
      = vals.map fun fv => (fv.1, Spec.intentCells m fv.2) := by
  unfold valuesToProto
  rw [List.map_map]
  apply List.map_congr_left
  intro fv _
  simp only [Function.comp_apply, List.map_map]
  rw [← decode_effectiveInner m fv.2]
  rfl

theorem mutate_durability_fault (m : MutateCall) (vals : Values) (h : ¬ m.durability < 5) :
    (mutateToProto m vals).isFault = true := by
  simp [mutateToProto, mutationBase, h, Outcome.map, Outcome.isFault]

theorem mem_indexed {γ} (l : List γ) (i : Nat) (c : γ) :
    (i, c) ∈ indexed l ↔ l[i]? = some c := by
  rw [indexed, List.mem_iff_getElem?]
  simp only [List.getElem?_zip_eq_some]
  constructor
  · rintro ⟨j, hj, h⟩
    obtain ⟨_, rfl⟩ := List.getElem?_eq_some_iff.mp hj
    rwa [List.getElem_range]
  · intro h
    have hi := (List.getElem?_eq_some_iff.mp h).1
    exact ⟨i, List.getElem?_eq_some_iff.mpr ⟨by rwa [List.length_range], List.getElem_range _⟩, h⟩

theorem mem_actionsOf {α β} (calls : List (MCall α β)) (r : Region) (i : Nat) (c : MCall α β) :
    (i, c) ∈ actionsOf calls r ↔ calls[i]? = some c ∧ c.cancelled = false ∧ c.region = r := by
  simp [actionsOf, mem_indexed]

theorem actionsOf_sorted {α β} (calls : List (MCall α β)) (r : Region) :
    ((actionsOf calls r).map (·.1)).Pairwise (· < ·) := by
  have hs : ((actionsOf calls r).map (·.1)).Sublist ((indexed calls).map (·.1)) :=
    (List.filter_sublist).map _
  rw [indexed, List.map_fst_zip (by rw [List.length_range]; exact Nat.le_refl _)] at hs
  exact List.Pairwise.sublist hs List.pairwise_lt_range

theorem decodeActions_intent {α β} (need : α → Nat) (l : List (Nat × MCall α β))
    (hneed : ∀ ic ∈ l, need ic.2.msg = ic.2.cbs.length) (rest : List β) :
    Spec.decodeActions need (l.map fun ic => ({ index := ic.1 + 1, msg := ic.2.msg } : PBAction α))
        ((l.flatMap fun ic => ic.2.cbs) ++ rest)
      = .ok (l.map fun ic => ⟨ic.1 + 1, ic.2.msg, ic.2.cbs⟩, rest) := by
  induction l with
  | nil => rfl
  | cons ic l ih =>
    simp only [List.map_cons, List.flatMap_cons, List.append_assoc, Spec.decodeActions,
      hneed ic List.mem_cons_self, List.length_append, Nat.not_lt.mpr (Nat.le_add_right _ _), if_false,
      List.drop_left' rfl, List.take_left' rfl, ih fun x hx => hneed x (List.mem_cons_of_mem _ hx)]

theorem decodeMulti_intent {α β} (need : α → Nat) (calls : List (MCall α β))
    (hneed : ∀ c ∈ calls, need c.msg = c.cbs.length) (π : List Region) (rest : List β) :
    Spec.decodeMulti need (multiToProto calls π).regionActions
        ((multiToProto calls π).cellblocks ++ rest)
      = .ok (Spec.multiIntent calls π, rest) := by
  simp only [multiToProto, Spec.multiIntent]
  induction π with
  | nil => rfl
  | cons r π ih =>
    have hn : ∀ ic ∈ actionsOf calls r, need ic.2.msg = ic.2.cbs.length := fun ic hic =>
      hneed _ (List.mem_of_getElem? ((mem_actionsOf calls r ic.1 ic.2).mp hic).1)
    simp only [List.map_cons, List.flatMap_cons, List.append_assoc, Spec.decodeMulti,
      decodeActions_intent need (actionsOf calls r) hn, ih]

theorem multi_complete {α β} (calls : List (MCall α β)) (π : List Region) (i : Nat) (c : MCall α β)
    (h : calls[i]? = some c) (hl : c.cancelled = false) (hr : c.region ∈ π) :
    ∃ ra ∈ Spec.multiIntent calls π, ra.1 = c.region.name ∧
      (⟨i + 1, c.msg, c.cbs⟩ : Spec.DecodedAction α β) ∈ ra.2 :=
  ⟨_, List.mem_map.mpr ⟨c.region, hr, rfl⟩, rfl,
    List.mem_map.mpr ⟨(i, c), (mem_actionsOf calls c.region i c).mpr ⟨h, hl, rfl⟩, rfl⟩⟩

theorem multi_sound {α β} (calls : List (MCall α β)) (π : List Region)
    (ra : Bytes × List (Spec.DecodedAction α β)) (hra : ra ∈ Spec.multiIntent calls π)
    (a : Spec.DecodedAction α β) (ha : a ∈ ra.2) :
    ∃ r ∈ π, ra.1 = r.name ∧ ∃ i c, calls[i]? = some c ∧ a.index = i + 1 ∧ c.cancelled = false ∧
      c.region = r ∧ a.msg = c.msg ∧ a.cbs = c.cbs := by
  obtain ⟨r, hr, rfl⟩ := List.mem_map.mp hra
  obtain ⟨ic, hic, rfl⟩ := List.mem_map.mp ha
  obtain ⟨hget, hlive, hreg⟩ := (mem_actionsOf calls r ic.1 ic.2).mp hic
  exact ⟨r, hr, rfl, ic.1, ic.2, hget, rfl, hlive, hreg, rfl, rfl⟩

theorem multi_once {α β} (calls : List (MCall α β)) (π : List Region) (hπ : π.Nodup) :
    ((Spec.multiIntent calls π).flatMap fun ra => ra.2.map (·.index)).Nodup := by
  induction π with
  | nil => exact List.nodup_nil
  | cons r π ih =>
    obtain ⟨hr, hπ'⟩ := List.nodup_cons.mp hπ
    have ih := ih hπ'
    simp only [Spec.multiIntent, List.map_cons, List.flatMap_cons, List.map_map] at ih ⊢
    refine List.nodup_append.mpr ⟨?_, ih, ?_⟩
    · -- within a region: the positions increase
      rw [List.Nodup, List.pairwise_map]
      exact (List.pairwise_map.mp (actionsOf_sorted calls r)).imp fun h => Nat.ne_of_lt (Nat.succ_lt_succ h)
    · -- across regions: the same position is the same call, hence the same region
      intro x hx y hy hxy
      obtain ⟨⟨i, c⟩, hic, rfl⟩ := List.mem_map.mp hx
      obtain ⟨ra, hra, hy⟩ := List.mem_flatMap.mp hy
      obtain ⟨r', hr', rfl⟩ := List.mem_map.mp hra
      obtain ⟨b, hb, hj⟩ := List.mem_map.mp hy
      obtain ⟨⟨j, c'⟩, hjc, rfl⟩ := List.mem_map.mp hb
      obtain ⟨e1, _, p1⟩ := (mem_actionsOf calls r i c).mp hic
      obtain ⟨e2, _, p2⟩ := (mem_actionsOf calls r' j c').mp hjc
      obtain rfl : j = i := Nat.succ.inj (hj.trans hxy.symm)
      obtain rfl : c = c' := Option.some.inj (e1.symm.trans e2)
      exact hr (p1 ▸ p2 ▸ hr')

end GV.ToProto
