import GohbaseVerif.Lemmas.BatchRun
/-!
What is sent: the `QueueBatch` events. What a run of the retry loop sends is described pass by pass
(`Sends`) and read off `Run` once (`Run.sends`); the facts about `Sent` are facts about `Sends`.
-/
namespace GV.Batch

/-- call `c` was handed to some region client in retry round `r` -/
def Sent (ev : List Event) (r c : Nat) : Prop := ∃ k cs, Event.queue r k cs ∈ ev ∧ c ∈ cs

/-- the `QueueBatch` calls of round `r`, in order -/
def queuedAt (ev : List Event) (r : Nat) : List (Nat × List Nat) :=
  ev.filterMap fun
    | .queue r' k cs => if r' = r then some (k, cs) else none
    | _ => none

theorem sent_append {a b : List Event} {r c : Nat} : Sent (a ++ b) r c ↔ Sent a r c ∨ Sent b r c := by
  simp only [Sent, List.mem_append, or_and_right, exists_or]

theorem sent_nil {r c : Nat} : ¬ Sent [] r c := by
  rintro ⟨k, cs, h, _⟩; cases h

theorem mem_queueEvents {r r' k : Nat} {rd : Round} {batch cs : List Nat} :
    Event.queue r' k cs ∈ queueEvents r rd batch ↔ r' = r ∧ (k, cs) ∈ groups rd batch := by
  simp only [queueEvents, List.mem_map]
  constructor
  · rintro ⟨g, hg, heq⟩
    cases heq
    exact ⟨rfl, hg⟩
  · rintro ⟨rfl, hg⟩
    exact ⟨_, hg, rfl⟩

theorem sent_queueEvents {r r' : Nat} {rd : Round} {batch : List Nat} {c : Nat} :
    Sent (queueEvents r rd batch) r' c ↔ r' = r ∧ c ∈ batch := by
  simp only [Sent, mem_queueEvents]
  constructor
  · rintro ⟨k, cs, ⟨rfl, hg⟩, hc⟩
    exact ⟨rfl, (groups_sublist hg).subset hc⟩
  · rintro ⟨rfl, hc⟩
    obtain ⟨g, hg, hcg⟩ := List.mem_flatMap.mp (mem_groups_flat.mpr hc)
    exact ⟨g.1, g.2, ⟨rfl, hg⟩, hcg⟩

theorem queuedAt_append (a b : List Event) (r : Nat) : queuedAt (a ++ b) r = queuedAt a r ++ queuedAt b r := by
  simp [queuedAt, List.filterMap_append]

theorem queuedAt_queueEvents (r : Nat) (rd : Round) (batch : List Nat) :
    queuedAt (queueEvents r rd batch) r = groups rd batch := by
  simp only [queuedAt, queueEvents, List.filterMap_map]
  have : ((fun x => match x with
      | Event.queue r' k cs => if r' = r then some (k, cs) else none
      | _ => none) ∘ fun g : Nat × List Nat => Event.queue r g.1 g.2) = some := by
    funext g; simp
  rw [this, List.filterMap_some]

theorem queuedAt_nil_of_no_round {ev : List Event} {r : Nat}
    (h : ∀ r' k cs, Event.queue r' k cs ∈ ev → r' ≠ r) : queuedAt ev r = [] := by
  simp only [queuedAt, List.filterMap_eq_nil_iff]
  intro e he
  cases e with
  | queue r' k cs => simp [h r' k cs he]
  | sleep _ => rfl
  | sleepCut _ => rfl
  | sleepLeft _ => rfl

/-- if both are in `l`, `c` comes before `d` -/
def Before (c d : Nat) (l : List Nat) : Prop := c ∈ l → d ∈ l → [c, d].Sublist l

theorem before_filter {l : List Nat} {c d : Nat} (h : Before c d l) (p : Nat → Bool) : Before c d (l.filter p) := by
  intro hc hd
  obtain ⟨hcl, hpc⟩ := List.mem_filter.mp hc
  obtain ⟨hdl, hpd⟩ := List.mem_filter.mp hd
  simpa [List.filter_cons, hpc, hpd] using (h hcl hdl).filter p

theorem before_group {rd : Round} {batch : List Nat} {c d : Nat} (hb : Before c d batch)
    {g : Nat × List Nat} (hg : g ∈ groups rd batch) : Before c d g.2 := by
  rw [groups_eq hg]; exact before_filter hb _

theorem before_retried {rd : Round} {batch : List Nat} {c d : Nat} (hbef : Before c d (liveCalls rd batch))
    (hsame : clientOf rd c = clientOf rd d) : Before c d (retried rd batch) := by
  refine before_filter (fun hc hd => ?_) _
  -- both are in the group of their common client
  obtain ⟨g, hg, hcg⟩ := List.mem_flatMap.mp hc
  have hdg : d ∈ g.2 := (mem_group hg).mpr
    ⟨mem_groups_flat.mp hd, hsame ▸ ((mem_group hg).mp hcg).2⟩
  exact (before_group hbef hg hcg hdg).trans (List.sublist_flatten_of_mem (List.mem_map_of_mem hg))

/-- What a run hands to the region clients from pass `r` on; `res` is the slice `SendBatch` returns in the
end. A pass queues its live calls; the next pass, if any, has those of them whose answer is retried, in
wait order; the others are not touched again, so a success stays (`hok`). A pass that has to back off is
followed by another only if a call about to be retried has not given up (`hwait`). What is read off it, with passes
counted from `r`: `of_sent` (a call sent in pass `i` was live and located there), `sent_pred` (… and, for `i > 0`, sent
in pass `i - 1` and answered with an error that is retried), `sent_le`, `waiter`, `order`. -/
inductive Sends (b0 : List Nat) (res : List Slot) : List Round → Nat → List Nat → List Event → Prop
  | done {rounds r batch} : Sends b0 res rounds r batch []
  | pass {rd rest r batch tail new}
      (hloc : ∀ c ∈ liveCalls rd batch, locOk rd c = true)
      (hok : ∀ c ∈ liveCalls rd batch, ∀ m, rd.ans c = .ok m → getSlot b0 res c = ⟨some m, none⟩)
      (htail : ∀ r' k cs, Event.queue r' k cs ∉ tail)
      (hwait : (∃ c ∈ liveCalls rd batch, isBackoff (rd.ans c) = true) → new ≠ [] →
        ∃ d ∈ retried rd batch, rd.gaveUp d = false)
      (hrest : Sends b0 res rest (r + 1) (retried rd batch) new) :
      Sends b0 res (rd :: rest) r batch (queueEvents r rd (liveCalls rd batch) ++ tail ++ new)

theorem mem_pass {r r' k : Nat} {rd : Round} {live cs : List Nat} {tail new : List Event}
    (htail : ∀ r' k cs, Event.queue r' k cs ∉ tail) :
    Event.queue r' k cs ∈ queueEvents r rd live ++ tail ++ new ↔
      (r' = r ∧ (k, cs) ∈ groups rd live) ∨ Event.queue r' k cs ∈ new := by
  rw [List.mem_append, List.mem_append, mem_queueEvents, or_iff_left (htail r' k cs)]

theorem sent_pass {r r' : Nat} {rd : Round} {live : List Nat} {tail new : List Event} {c : Nat}
    (htail : ∀ r' k cs, Event.queue r' k cs ∉ tail) :
    Sent (queueEvents r rd live ++ tail ++ new) r' c ↔ (r' = r ∧ c ∈ live) ∨ Sent new r' c := by
  have ht : ¬ Sent tail r' c := fun ⟨_, _, h, _⟩ => htail _ _ _ h
  rw [sent_append, sent_append, sent_queueEvents, or_iff_left ht]

theorem sent_pass_later {r r' : Nat} {rd : Round} {live : List Nat} {tail new : List Event} {c : Nat}
    (htail : ∀ r' k cs, Event.queue r' k cs ∉ tail) (hr : r < r') :
    Sent (queueEvents r rd live ++ tail ++ new) r' c ↔ Sent new r' c := by
  rw [sent_pass htail, or_iff_right fun h => Nat.ne_of_gt hr h.1]

theorem queuedAt_pass {r : Nat} {rd : Round} {live : List Nat} {tail new : List Event}
    (htail : ∀ r' k cs, Event.queue r' k cs ∉ tail) (hnew : ∀ r' k cs, Event.queue r' k cs ∈ new → r < r') :
    queuedAt (queueEvents r rd live ++ tail ++ new) r = groups rd live := by
  rw [queuedAt_append, queuedAt_append, queuedAt_queueEvents, queuedAt_nil_of_no_round,
    queuedAt_nil_of_no_round, List.append_nil, List.append_nil]
  · exact fun r' k cs h => Nat.ne_of_gt (hnew r' k cs h)
  · exact fun r' k cs h => absurd h (htail _ _ _)

/-- Pass `i + 1` counted from pass `r` is pass `i` counted from pass `r + 1`. Written `i + r`, the pass is `i`
by computation when `r = 0`: what follows applies to `sendBatch_sends` as it stands. -/
theorem pass_succ (i r : Nat) : i + 1 + r = i + (r + 1) := by omega

namespace Sends
variable {b0 : List Nat} {res : List Slot} {rounds : List Round} {r : Nat} {batch : List Nat} {new : List Event}

theorem round_ge (h : Sends b0 res rounds r batch new) {r' k : Nat} {cs : List Nat}
    (hm : Event.queue r' k cs ∈ new) : r ≤ r' := by
  induction h with
  | done => cases hm
  | pass _ _ htail _ _ ih =>
    rcases (mem_pass htail).mp hm with ⟨rfl, _⟩ | hm
    · exact Nat.le_refl _
    · exact Nat.le_of_succ_le (ih hm)

theorem sent_ge (h : Sends b0 res rounds r batch new) {r' c : Nat} (hs : Sent new r' c) : r ≤ r' :=
  let ⟨_, _, hm, _⟩ := hs; h.round_ge hm

theorem sent_pass_first {rd : Round} {rest : List Round} {retry live : List Nat} {tail : List Event} {c : Nat}
    (hrest : Sends b0 res rest (r + 1) retry new) (htail : ∀ r' k cs, Event.queue r' k cs ∉ tail) :
    Sent (queueEvents r rd live ++ tail ++ new) (0 + r) c ↔ c ∈ live := by
  rw [sent_pass htail]
  exact ⟨fun h => h.elim And.right fun h => absurd (hrest.sent_ge h) (by omega),
    fun h => Or.inl ⟨Nat.zero_add r, h⟩⟩

theorem of_sent (h : Sends b0 res rounds r batch new) {i c : Nat} (hs : Sent new (i + r) c) :
    c ∈ batch ∧ ∃ rd, rounds[i]? = some rd ∧ locOk rd c = true ∧
      ∀ m, rd.ans c = .ok m → getSlot b0 res c = ⟨some m, none⟩ := by
  induction h generalizing i with
  | done => exact absurd hs sent_nil
  | @pass rd rest r batch tail new hloc hok htail _ hrest ih =>
    cases i with
    | zero =>
      have hc : c ∈ liveCalls rd batch := (hrest.sent_pass_first htail).mp hs
      exact ⟨liveCalls_sub hc, rd, rfl, hloc c hc, hok c hc⟩
    | succ i =>
      rw [sent_pass_later htail (by omega), pass_succ i r] at hs
      obtain ⟨hcn, hrd⟩ := ih hs
      exact ⟨liveCalls_sub (mem_retried.mp hcn).1, hrd⟩

theorem sent_pred (h : Sends b0 res rounds r batch new) {i c : Nat} (hs : Sent new (i + 1 + r) c) :
    Sent new (i + r) c ∧ ∃ rd, rounds[i]? = some rd ∧ isRetry (rd.ans c) = true := by
  induction h generalizing i with
  | done => exact absurd hs sent_nil
  | @pass rd rest r batch tail new _ _ htail _ hrest ih =>
    rw [sent_pass_later htail (by omega), pass_succ i r] at hs
    cases i with
    | zero =>
      obtain ⟨hcl, hcr⟩ := mem_retried.mp (hrest.of_sent hs).1
      exact ⟨(hrest.sent_pass_first htail).mpr hcl, rd, rfl, hcr⟩
    | succ j =>
      obtain ⟨hsj, hrd⟩ := ih hs
      rw [← pass_succ j r] at hsj
      exact ⟨(sent_pass htail).mpr (Or.inr hsj), hrd⟩

theorem sent_le (h : Sends b0 res rounds r batch new) {i j c : Nat} (hs : Sent new (i + r) c) (hj : j ≤ i) :
    Sent new (j + r) c := by
  induction i with
  | zero => rwa [Nat.le_zero.mp hj]
  | succ i ih =>
    rcases Nat.lt_or_eq_of_le hj with hlt | rfl
    · exact ih (h.sent_pred hs).1 (Nat.le_of_lt_succ hlt)
    · exact hs

theorem waiter (h : Sends b0 res rounds r batch new) {i c : Nat} {rd : Round}
    (hs : Sent new (i + 1 + r) c) (hrd : rounds[i]? = some rd)
    (hbk : ∃ d, Sent new (i + r) d ∧ isBackoff (rd.ans d) = true) :
    ∃ d, Sent new (i + r) d ∧ isRetry (rd.ans d) = true ∧ rd.gaveUp d = false := by
  induction h generalizing i with
  | done => exact absurd hs sent_nil
  | @pass rd' rest r batch tail new _ _ htail hwait hrest ih =>
    obtain ⟨d, hsd, hbd⟩ := hbk
    cases i with
    | zero =>
      cases hrd
      have hs' := (sent_pass_later htail (by omega)).mp hs
      have hdl : d ∈ liveCalls rd batch := (hrest.sent_pass_first htail).mp hsd
      obtain ⟨e, he, hge⟩ := hwait ⟨d, hdl, hbd⟩ fun h0 => sent_nil (h0 ▸ hs')
      obtain ⟨hel, her⟩ := mem_retried.mp he
      exact ⟨e, (hrest.sent_pass_first htail).mpr hel, her, hge⟩
    | succ i =>
      rw [pass_succ] at hs hsd ⊢
      obtain ⟨e, hse, hre, hge⟩ := ih ((sent_pass_later htail (by omega)).mp hs) hrd
        ⟨d, (sent_pass_later htail (by omega)).mp hsd, hbd⟩
      exact ⟨e, (sent_pass htail).mpr (Or.inr hse), hre, hge⟩

theorem order (h : Sends b0 res rounds r batch new) {c d : Nat} (hbef : Before c d batch)
    (hsame : ∀ rd ∈ rounds, clientOf rd c = clientOf rd d) {r' k : Nat} {cs : List Nat}
    (hm : Event.queue r' k cs ∈ new) : Before c d cs := by
  induction h with
  | done => cases hm
  | @pass rd _ r batch _ _ _ _ htail _ _ ih =>
    have hlive : Before c d (liveCalls rd batch) := before_filter hbef _
    rcases (mem_pass htail).mp hm with ⟨_, hg⟩ | hm
    · exact before_group hlive hg
    · exact ih (before_retried hlive (hsame rd (List.mem_cons_self ..)))
        (fun x hx => hsame x (List.mem_cons_of_mem _ hx)) hm

end Sends

/-- The back-off has to be positive (it is from `backoffStart` on): a sleep of 0 returns at once without looking
at `gaveUp` (`BackOff.zero`), and `hwait` would not hold. -/
theorem Run.sends {b0 : List Nat} {rounds : List Round} {r : Nat} {batch : List Nat} {st : St} {R : Result}
    (h : Run b0 rounds r batch st R) (hb : ∀ c ∈ batch, c ∈ b0) (hbo : 0 < st.backoff) :
    ∃ new, R.events = st.events ++ new ∧ Sends b0 R.res rounds r batch new := by
  induction h with
  | fail => exact ⟨[], by simp, .done⟩
  | @stop rd rest r batch _ a _ _ tail p htail =>
    have hs : Sends b0 a.res (rd :: rest) r batch _ :=
      .pass p.locOk (fun c hc m hm => p.slot_ok (hb c (liveCalls_sub hc)) hc hm) htail
        (fun _ h => absurd rfl h) .done
    exact ⟨_, by simp only [List.append_assoc, List.append_nil], hs⟩
  | @next rd rest r batch st a pre tail _ _ R p hback hrec ih =>
    obtain ⟨new, hev, hs⟩ := ih (fun c hc => hb c (p.retries_sub hc)) (hback.pos hbo)
    have hs' : Sends b0 R.res (rd :: rest) r batch _ :=
      .pass p.locOk (fun c hc m hm => by
          have hcb := hb c (liveCalls_sub hc)
          -- a success is not retried
          have hnr : c ∉ a.retries := fun hr => by
            have := (p.mem_retries.mp hr).2
            rw [hm] at this; cases this
          rw [hrec.frame hcb hnr]
          exact p.slot_ok hcb hc hm)
        hback.noQueue
        (fun ⟨c, hc, hbc⟩ _ => by
          have hnb : a.needBackoff = true := by
            rw [p.needBackoff]
            exact List.any_eq_true.mpr ⟨c, p.mem_pre_uncut.mpr hc, hbc⟩
          rw [hnb, Bool.true_or, p.retries_uncut] at hback
          obtain ⟨d, hd, hgd⟩ := List.all_eq_false.mp (hback.waiter (Int.ne_of_gt hbo))
          exact ⟨d, hd, Bool.eq_false_iff.mpr hgd⟩)
        (p.retries_uncut ▸ hs)
    exact ⟨_, by rw [hev]; simp only [List.append_assoc], hs'⟩

theorem Run.queuedAt_first {b0 : List Nat} {rd : Round} {rest : List Round} {r : Nat} {batch : List Nat} {st : St}
    {R : Result} (h : Run b0 (rd :: rest) r batch st R) (hb : ∀ c ∈ batch, c ∈ b0) (hbo : 0 < st.backoff)
    (hany : batch.any (fun c => !locOk rd c && !ownGone rd c) = false) :
    ∃ new, R.events = st.events ++ new ∧ queuedAt new r = groups rd (liveCalls rd batch) := by
  cases h with
  | fail hany' => rw [hany] at hany'; cases hany'
  | stop p htail =>
    exact ⟨_ ++ [], by simp only [List.append_assoc, List.append_nil],
      queuedAt_pass htail (fun _ _ _ h => nomatch h)⟩
  | next p hback hrec =>
    -- the later passes queue under later round numbers
    obtain ⟨new, hev, hs⟩ := hrec.sends (fun c hc => hb c (p.retries_sub hc)) (hback.pos hbo)
    exact ⟨_, by rw [hev]; simp only [List.append_assoc],
      queuedAt_pass hback.noQueue (fun _ _ _ h => hs.round_ge h)⟩

end GV.Batch
