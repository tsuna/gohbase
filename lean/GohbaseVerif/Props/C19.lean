import GohbaseVerif.Gen.Exits
import GohbaseVerif.Lemmas.ConnCache
import GohbaseVerif.Gen.Selects
/-!
# C19 — Close is terminal and leaves nothing running

Model: `Model/ConnCache.lean`.  `flag`: the connection cache has a `closed` flag, set by `closeAll` under
the lock, after which `put` returns nil; `check`: the admin path looks at `c.done` after publishing its
connection (both are fix a1d563d of gohbase).  The theorems are about `flag = true` / `check = true`; the
witnesses against `false` are the documented reason for the flag.
-/
namespace GV.ConnCache
open GV.Gen.Selects

/-! How the table facts are evaluated is said in DESIGN.md §14.7. -/

/-- A second `Close` finds `closeOnce` taken and changes nothing; `closeAll` never runs twice. -/
theorem close_twice_noop (flag : Bool) (s : State) (h : s.onceStarted = true) :
    step flag s .closeBegin = some s ∧
    (s.closeAllDone = true → step flag s .closeAllRun = none) := by
  constructor
  · simp [step, h]
  · intro hd; simp [step, hd]

/-- `Close` is the `closeOnce.Do` of the source (the only bare operation in `client.Close`) -/
theorem close_under_once :
    bareOps.filter (·.fn = "client.Close") = [⟨"gohbase", "client.Close", "do", "c.closeOnce"⟩] := by
  simp [bareOps]

example : run true init [.closeBegin, .closeAllRun, .closeBegin] =
    run true init [.closeBegin, .closeAllRun] := by decide
example : run true init [.closeBegin, .closeAllRun, .closeAllRun] = none := by decide

/-- Every wait of `getRegionAndClientForRPC` (the only place a call waits for a region) has the `c.done`
case, so `close(c.done)` releases every waiter; so has the hand-over to a region connection's writer
(`QueueBatch`) with that connection's `done`, closed by `closeAll`; and the two looks an establisher
takes at `c.done` are non-blocking. -/
theorem waiters_released_by_close :
    (∀ s ∈ selects, s.fn = "client.getRegionAndClientForRPC" → "recv:c.done" ∈ s.cases) ∧
    (selects.filter (·.fn = "client.getRegionAndClientForRPC")).length = 2 ∧
    (∀ s ∈ selects, s.fn = "client.QueueBatch" ∨ s.fn = "client.QueueRPC" → "recv:c.done" ∈ s.cases) ∧
    (∀ s ∈ selects, s.fn = "client.reestablishRegion" ∨ s.fn = "client.establishRegion" →
      s.cases = ["default", "recv:c.done"]) := by
  decide +kernel

/-- the admin path's look at `c.done` after publishing the master connection is in the source -/
theorem admin_path_checks_done :
    (selects.filter (·.fn = "client.establishRegion")).map (·.cases) = [["default", "recv:c.done"]] := by
  simp [selects]

/-- negative: a wait without the `done` case would not pass -/
example : ¬ ("recv:c.done" ∈ (⟨"gohbase", "sendBlocking", 0, ["recv:ctx.Done()", "recv:rpc.ResultChan()"]⟩ : Sel).cases) := by
  simp

/-- `closeAll` closes every connection that is in the cache when it runs. -/
theorem all_cached_connections_closed (flag : Bool) {s s' : State}
    (h : step flag s .closeAllRun = some s') :
    ∀ c ∈ s'.conns, s'.cache.any (·.id == c.id) = true → c.closed = true := by
  simp only [step, Option.ite_none_right_eq_some, Option.some.injEq] at h
  obtain ⟨_, rfl⟩ := h
  exact closeAll_closes s

example : (run true init [.spawnEstablish, .estPut 5 1, .estPut 6 2, .dial 0, .closeBegin, .closeAllRun]).map
    (fun s => (s.conns.map (·.closed), openCached s)) = some ([true, true], []) := by decide

/-- "after `Close` has run `closeAll`, no new connection object is created" -/
def NoNewConnectionAfterClose (flag : Bool) : Prop :=
  ∀ s, Reachable flag s → ∀ c ∈ s.conns, c.afterClose = false

/-- "once `closeAll` has run, no cached connection is open" -/
def NothingOpenAfterClose (flag : Bool) : Prop :=
  ∀ s, Reachable flag s → s.closeAllDone = true → openCached s = []

/-- An establisher past its last look at `c.done` (or, started by `findRegion`, never taking one) that
calls `clients.put` after `closeAll` gets nil: no connection object is ever created after `closeAll`,
over all interleavings. -/
theorem no_new_connection_after_close : NoNewConnectionAfterClose true :=
  fun _ hr => (good_of_reachable hr).noneAfter rfl

/-- … and after `closeAll` every cached connection is closed, for good. -/
theorem nothing_open_after_close : NothingOpenAfterClose true := by
  intro s hr hd
  have hg := (good_of_reachable hr).allClosed rfl hd
  unfold openCached
  rw [List.map_eq_nil_iff, List.filter_eq_nil_iff]
  intro c hc
  cases hany : s.cache.any (·.id == c.id) with
  | false => simp
  | true => simp [hg c hc hany]

/-- the race of DESIGN §7 item 11, (A) through `go c.reestablishRegion`: past the `done` check,
then `Close` runs completely, then `clients.put` for an address that is not cached -/
def raceReestablish : List Action :=
  [.spawnReestablish, .estCheck, .closeBegin, .closeAllRun, .estPut 5 1, .dial 0]

/-- (B) through `findRegion`'s `go c.establishRegion(reg, addr)`, which takes no look at `c.done`
before `clients.put` at all (the requester finished its meta lookup just before `Close`) -/
def raceFindRegion : List Action :=
  [.spawnEstablish, .closeBegin, .closeAllRun, .estPut 5 1, .dial 0]

/-- with the flag both races end with `put` refusing: nothing created, nothing open -/
example : (run true init raceReestablish).map (fun s => (s.conns, s.cache, openCached s)) =
    some ([], [], []) := by decide
example : (run true init raceFindRegion).map (fun s => (s.conns, s.cache, openCached s)) =
    some ([], [], []) := by decide
example : (put true { onceStarted := true, closeAllDone := true, past := 1 } 5 1).2 = .refused := by
  decide

def demoOpen : List Action :=
  [.spawnEstablish, .spawnReestablish, .estCheck, .estPut 5 1, .estPut 6 2, .dial 0, .clientDown 0, .estPut 5 1]
/-- before `Close` the flag changes nothing -/
example : run true init demoOpen = run false init demoOpen := by decide
example : (run true init demoOpen).map (fun s => s.conns.length) = some 3 := by decide

/-! ### Why the flag is needed: `flag = false` (gohbase before a1d563d) -/

example : (run false init raceReestablish).map
    (fun s => (s.closeAllDone, s.conns.map fun c => (c.afterClose, c.closed, c.dials), openCached s))
    = some (true, [(true, false, 1)], [0]) := by decide
example : (run false init raceFindRegion).map
    (fun s => (s.closeAllDone, s.conns.map fun c => (c.afterClose, c.closed, c.dials), openCached s))
    = some (true, [(true, false, 1)], [0]) := by decide

/-- the state both races end in (before the dial): a connection made after `closeAll`, cached, open -/
def leaked : State where
  conns := [{ id := 0, addr := 5, afterClose := true }]
  cache := [⟨0, 5, [1]⟩]
  nextId := 1
  onceStarted := true
  closeAllDone := true
  past := 1

theorem leaked_reachable_before_fix : Reachable false leaked :=
  ⟨[.spawnReestablish, .estCheck, .closeBegin, .closeAllRun, .estPut 5 1], by decide⟩

theorem leaked_reachable_before_fix_via_findRegion : Reachable false leaked :=
  ⟨[.spawnEstablish, .closeBegin, .closeAllRun, .estPut 5 1], by decide⟩

/-- Without the flag the property does NOT hold. -/
theorem before_fix_new_connection_after_close : ¬ NoNewConnectionAfterClose false := by
  intro h
  have := h _ leaked_reachable_before_fix { id := 0, addr := 5, afterClose := true } (by simp [leaked])
  simp at this

theorem before_fix_open_after_close : ¬ NothingOpenAfterClose false := by
  intro h
  have := h _ leaked_reachable_before_fix_via_findRegion rfl
  revert this; decide

/-- Once `Close` has dealt with the admin connection and no establisher is between publishing a master
connection and its look at `c.done`, the published master connection is closed: `Close` saw it, or
its establisher saw `done` closed. -/
theorem admin_connection_closed_after_close {s : AState} (h : AReachable true s)
    (hc : s.closeAdminDone = true) (hq : s.pendingCheck = []) (k : Nat) (hk : s.adminClient = some k) :
    k ∈ s.closedConns := by
  rcases (goodA_of_reachable h).covered hc k hk with h1 | h1
  · exact h1
  · rw [hq] at h1; cases h1

/-- both orders: `Close` first, then the establisher publishes and checks; or publish, `Close`, check -/
example : (arun true {} [.closeDone, .closeAdmin, .publish, .checkDone 0]).map
    (fun s => (s.adminClient, s.closedConns, s.pendingCheck)) = some (some 0, [0], []) := by decide
example : (arun true {} [.publish, .closeDone, .closeAdmin, .checkDone 0]).map
    (fun s => (s.adminClient, s.closedConns, s.pendingCheck)) = some (some 0, [0, 0], []) := by decide
/-- before a1d563d (no look at `done` after publishing): the master connection stays open -/
example : (arun false {} [.closeDone, .closeAdmin, .publish]).map
    (fun s => (s.closeAdminDone, s.adminClient, s.closedConns, s.pendingCheck)) =
    some (true, some 0, [], []) := by decide

/-! ## DESIGN §7 item 13: a connection declared dead is not closed by the client

`clientDown` removes the connection from the cache; neither it nor `Close` closes it.  A connection
that failed by itself (`c.fail`) is closed already; after a server-class *exception answer* (e.g.
RegionServerStoppedException) the socket stays open.  Witness in the model: -/
example : (run true init [.spawnEstablish, .estPut 5 1, .dial 0, .clientDown 0, .closeBegin, .closeAllRun]).map
    (fun s => s.conns.map fun c => (c.down, c.closed)) = some [(true, false)] := by decide

open GV.Gen

/-- Regenerated from caches.go / rpc.go: the connection cache's `put` tests the `closed` flag first, under
the lock, and returns nil; `closeAll` sets it inside its critical section; `establishRegion` returns
when `put` refuses: the three source facts `no_new_connection_after_close` rests on. -/
theorem closed_flag_in_source :
    Exits.putRefusesWhenClosedUnderLock = true ∧ Exits.closeAllSetsClosedUnderLock = true ∧
    Exits.establishReturnsWhenPutRefuses = true ∧ Exits.shapeOk = true := by decide

/-- Regenerated from rpc.go: the retry loop of `lookupRegion` looks at `c.done` at the top of every
iteration (fix 20b6aaa).  Lookups for hbase:meta and the master go to ZooKeeper, which knows nothing of
the client being closed, and the loop's own context is the region's: without this look a failing
ZooKeeper kept the establisher of hbase:meta alive for ever after `Close`
(`activity-after-close-first-call-zk-down`). -/
theorem lookup_loop_watches_done_in_source :
    (GV.Gen.Selects.selects.filter (fun s => s.fn == "client.lookupRegion")).map (·.cases)
      = [["default", "recv:c.done"]] := by
  -- `==`: `String.reduceBEq` would evaluate `String.decEq`; without it `simp` makes it `=`
  simp [selects, -String.reduceBEq]

/-- Regenerated from region/new.go (`Dial`, fixes 929dc0f and 31e64ef): inside `dialOnce.Do` the region
client asks "am I closed?" before it dials (a client closed before anybody dialled it does not
connect) and again after it has stored the connection, before the hello (a client closed while the
dialer was connecting closes what the dialer hands out): no connection is opened, or left open, by a
region client after its `Close`. -/
theorem dial_checks_closed_before_and_after_in_source :
    GV.Gen.Exits.dialSteps = ["closed?", "dial", "store", "closed?", "hello"] := rfl

/-- Regenerated from zk/client.go (`LocateResource`): the ZooKeeper session opened for one lookup is
released by a `defer` placed right after the connect and before the read, i.e. on every path out, a
failed read included.  A session left open keeps its goroutines and redials the quorum once a second
whatever `Close` does (`activity-after-close-zookeeper-down-real` on a seeded change). -/
theorem zookeeper_session_released_on_every_path_in_source :
    GV.Gen.Exits.zkLocateSteps = ["connect", "defer-close", "get"] := rfl

end GV.ConnCache
