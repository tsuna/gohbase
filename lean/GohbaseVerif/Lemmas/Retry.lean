import GohbaseVerif.Model.Retry
import GohbaseVerif.Lemmas.Backoff
/-! One iteration of `SendRPC` / `SendBatch` along the schedule is an if-equation with the error class
a variable (`runRPC_cons`, `runBatch_cons`); `budget` is what is left of the two immediate retries, so one
induction per loop bounds them for every class.  Last, `Fits`: the statement about sublists behind
`greedy_decides_some_choice` (Props/C17). -/
namespace GV.Retry
open GV.Gen GV.Gen.RetryLoop

theorem backoffStart_eq : Backoff.backoffStart = 16 * msec := by
  unfold Backoff.backoffStart msec; rfl

theorem sched_pos (n : Nat) : 0 < sched n := by
  induction n with
  | zero => exact Backoff.backoffStart_pos
  | succ n ih => exact Backoff.nextBackoff_pos ih

theorem sched_mono (n : Nat) : sched n ≤ sched (n + 1) := Backoff.le_nextBackoff (sched_pos n)

theorem sched_le_of_le {m n : Nat} (h : m ≤ n) : sched m ≤ sched n := by
  induction h with
  | refl => exact Int.le_refl _
  | step _ ih => exact Int.le_trans ih (sched_mono _)

theorem sleepFor_eq (b : Int) : Backoff.sleepFor b = b := rfl

theorem sleepAndIncrease_pos (next : Int → Int) (b : Int) (h : 0 < b) :
    sleepAndIncrease next b = (some b, next b) := by
  simp [sleepAndIncrease, Backoff.beforeWait_of_ne_zero (Int.ne_of_gt h), sleepFor_eq]

theorem sleepAndIncrease_sched (j : Nat) :
    sleepAndIncrease Backoff.nextBackoff (sched j) = (some (sched j), sched (j + 1)) :=
  sleepAndIncrease_pos _ _ (sched_pos j)

theorem sleepAndIncrease_zero (next : Int → Int) :
    sleepAndIncrease next 0 = (none, Backoff.backoffStart) := by
  simp [sleepAndIncrease, Backoff.beforeWait_zero, Int.ne_of_gt Backoff.backoffStart_pos]

/-- `[sched j, sched (j+1), …]` of length `k`. -/
def schedFrom (j : Nat) : Nat → List Int
  | 0 => []
  | k + 1 => sched j :: schedFrom (j + 1) k

theorem immediateRetries_attempt_sleep (c c' : Cls) (d : Int) (r : List Ev) :
    immediateRetries c (.attempt c' :: .sleep d :: r) = immediateRetries c r := by
  simp [immediateRetries]

theorem immediateRetries_attempt_le (c c' : Cls) (evs : List Ev) :
    immediateRetries c (.attempt c' :: evs) ≤ (if c' = c then 1 else 0) + immediateRetries c evs := by
  match evs with
  | [] => simp [immediateRetries]
  | .attempt _ :: _ => simp [immediateRetries]
  | .sleep _ :: _ => simp [immediateRetries]

/-- immediate retries still granted at count `s`; `b`: the class is one whose retry can be immediate (else 0).
Two, because the wait is guarded by `serverErrorCount > 1` (`immediateRetries > 1`) and counts 0 and 1 go without -/
def budget (b : Bool) (s : Int) : Nat := if b then (2 - s).toNat else 0

/-- `hit`: the attempt retried at once is of the class being counted -/
theorem budget_spend {b : Bool} {s : Int} (hs : s ≤ 1) {hit : Prop} [Decidable hit] (hb : hit → b = true) :
    (if hit then 1 else 0) + budget b (s + 1) ≤ budget b s := by
  unfold budget
  cases b with
  | false =>
    have : ¬ hit := fun h => nomatch hb h
    simp [this]
  | true =>
    simp only [if_true]
    split <;> omega

theorem budget_mono {b : Bool} {s s' : Int} (h : s ≤ s') : budget b s' ≤ budget b s := by
  unfold budget
  split
  · omega
  · exact Nat.le_refl _

def Cls.retried : Cls → Bool
  | .retryable | .server | .nsre => true
  | _ => false

/-- the arm guarded by `serverErrorCount`: NotServingRegionError shares it (and the counter) with
ServerError -/
def Cls.counted : Cls → Bool
  | .server | .nsre => true
  | _ => false

theorem armFor_sendRPC (c : Cls) : armFor sendRPCArms c =
    if c.counted then
      some { types := ["NotServingRegionError", "ServerError"], sleeps := true, guardVar := "serverErrorCount",
             guardN := 1, continues := true, incs := ["serverErrorCount"], marks := [] }
    else if c.retried then
      some { types := ["RetryableError"], sleeps := true, guardVar := "", guardN := 0,
             continues := true, incs := [], marks := [] }
    else none := by
  cases c <;> simp [armFor, sendRPCArms, Cls.typeName, Cls.counted, Cls.retried]

def runRPC := sendRPC Backoff.nextBackoff sendRPCArms

theorem runRPC_cons (j : Nat) (s : Int) (c : Cls) (rest : List Cls) :
    runRPC ⟨sched j, s⟩ (c :: rest) = .attempt c ::
      if c.retried = false then []
      else if c.counted = true ∧ s ≤ 1 then runRPC ⟨sched j, s + 1⟩ rest
      else .sleep (sched j) :: runRPC ⟨sched (j + 1), if c.counted then s + 1 else s⟩ rest := by
  by_cases hs : s ≤ 1 <;> cases c <;>
    simp [runRPC, sendRPC, armFor_sendRPC, Cls.retried, Cls.counted, sleepAndIncrease_sched, ← Int.not_le, hs]

/- The two faces of the NotServingRegion arm since gohbase 2402646 (before it the arm never waited); DESIGN.md §14
cites the first. -/
theorem sendRPC_nsre_sleep (j : Nat) (s : Int) (hs : s > 1) (rest : List Cls) :
    runRPC ⟨sched j, s⟩ (.nsre :: rest) =
      .attempt .nsre :: .sleep (sched j) :: runRPC ⟨sched (j + 1), s + 1⟩ rest := by
  rw [runRPC_cons]; simp [Cls.retried, Cls.counted, Int.not_le.mpr hs]

theorem sendRPC_nsre_imm (j : Nat) (s : Int) (hs : ¬ s > 1) (rest : List Cls) :
    runRPC ⟨sched j, s⟩ (.nsre :: rest) = .attempt .nsre :: runRPC ⟨sched j, s + 1⟩ rest := by
  rw [runRPC_cons]; simp [Cls.retried, Cls.counted, Int.not_lt.mp hs]

theorem sendRPCInit_eq : sendRPCInit = ⟨sched 0, 0⟩ := by
  simp [sendRPCInit, sched, sendRPC_initBackoff]

theorem runRPC_sleeps (outs : List Cls) (j : Nat) (s : Int) :
    ∃ k, sleepsOf (runRPC ⟨sched j, s⟩ outs) = schedFrom j k := by
  induction outs generalizing j s with
  | nil => exact ⟨0, rfl⟩
  | cons c rest ih =>
    rw [runRPC_cons]
    split
    · exact ⟨0, rfl⟩
    · split
      · exact ih j (s + 1)
      · obtain ⟨k, hk⟩ := ih (j + 1) (if c.counted then s + 1 else s)
        exact ⟨k + 1, by simp only [sleepsOf, schedFrom, hk]⟩

/-- each immediate retry raises the count and nothing lowers it -/
theorem runRPC_immediate_bound (c : Cls) (outs : List Cls) (j : Nat) (s : Int) :
    immediateRetries c (runRPC ⟨sched j, s⟩ outs) ≤ budget c.counted s := by
  induction outs generalizing j s with
  | nil => exact Nat.zero_le _
  | cons d rest ih =>
    rw [runRPC_cons]
    split
    · exact Nat.zero_le _
    · by_cases hd : d.counted = true ∧ s ≤ 1
      · rw [if_pos hd]
        refine Nat.le_trans (immediateRetries_attempt_le c d _) ?_
        exact Nat.le_trans (Nat.add_le_add_left (ih j (s + 1)) _) (budget_spend hd.2 fun h => h ▸ hd.1)
      · rw [if_neg hd, immediateRetries_attempt_sleep]
        exact Nat.le_trans (ih _ _) (budget_mono (by split <;> omega))

def runBatch := sendBatchRounds Backoff.nextBackoff (some ("immediateRetries", 1))

theorem runBatch_nil (st : BatchSt) : runBatch st [] = [.attempt .ok] := rfl

theorem runBatch_cons (j : Nat) (i : Int) (b : Bool) (rest : List Bool) :
    runBatch ⟨sched j, i⟩ (b :: rest) = .attempt (if b then .retryable else .server) ::
      if b = false ∧ i ≤ 1 then runBatch ⟨sched j, i + 1⟩ rest
      else .sleep (sched j) :: runBatch ⟨sched (j + 1), if b then i else i + 1⟩ rest := by
  by_cases hi : i ≤ 1 <;> cases b <;>
    simp [runBatch, sendBatchRounds, sleepAndIncrease_sched, ← Int.not_le, hi]

theorem runBatch_immediate_bound (c : Cls) (rounds : List Bool) (j : Nat) (i : Int) :
    immediateRetries c (runBatch ⟨sched j, i⟩ rounds) ≤ budget (c = .server) i := by
  induction rounds generalizing j i with
  | nil => rw [runBatch_nil]; exact Nat.zero_le _
  | cons b rest ih =>
    rw [runBatch_cons]
    by_cases hb : b = false ∧ i ≤ 1
    · rw [if_pos hb, hb.1]
      refine Nat.le_trans (immediateRetries_attempt_le c .server _) ?_
      exact Nat.le_trans (Nat.add_le_add_left (ih j (i + 1)) _)
        (budget_spend hb.2 fun h => decide_eq_true h.symm)
    · rw [if_neg hb, immediateRetries_attempt_sleep]
      exact Nat.le_trans (ih _ _) (budget_mono (by split <;> omega))

theorem lookupLoop_sleeps (n j : Nat) :
    sleepsOf (lookupLoop Backoff.nextBackoff (sched j) n) = schedFrom j n := by
  induction n generalizing j with
  | zero => rfl
  | succ n ih => simp [lookupLoop, sleepAndIncrease_sched, sleepsOf, schedFrom, ih]

theorem establishLoop_sleeps (n j : Nat) :
    sleepsOf (establishLoop Backoff.nextBackoff (sched j) n) = schedFrom j (n + 1) := by
  induction n generalizing j with
  | zero => simp [establishLoop, sleepAndIncrease_sched, sleepsOf, schedFrom]
  | succ n ih => simp [establishLoop, sleepAndIncrease_sched, sleepsOf, schedFrom, ih]

theorem gapsOk_cons (p : Nat → Nat → Bool) (g : Nat) (w : List Nat) (i : Nat) :
    gapsOk p (g :: w) i = true ↔ p i g = true ∧ gapsOk p w (i + 1) = true := by
  simp only [gapsOk, Bool.and_eq_true]

/-- some choice of at most `m` gaps to leave out makes every other gap long enough for its slot, from `i` -/
def Fits (p : Nat → Nat → Bool) (gaps : List Nat) (i m : Nat) : Prop :=
  ∃ w : List Nat, w.Sublist gaps ∧ gaps.length ≤ w.length + m ∧ gapsOk p w i = true

theorem fits_cons_of_ok {p : Nat → Nat → Bool} {g i : Nat} (hp : p i g = true) (gs : List Nat) (m : Nat) :
    Fits p (g :: gs) i m ↔ Fits p gs (i + 1) m := by
  constructor
  · rintro ⟨w, hw, hl, hok⟩
    cases hw with
    | cons_cons _ hw' =>
      exact ⟨_, hw', by simp only [List.length_cons] at hl; omega, ((gapsOk_cons ..).mp hok).2⟩
    | cons _ hw' =>
      -- the witness leaves `g` out although it would do: leave out its first kept gap instead
      cases w with
      | nil => exact ⟨[], List.nil_sublist _, by simp only [List.length_cons, List.length_nil] at hl ⊢; omega, rfl⟩
      | cons x w' =>
        refine ⟨w', (List.sublist_cons_self x w').trans hw', ?_, ((gapsOk_cons ..).mp hok).2⟩
        simp only [List.length_cons] at hl ⊢
        omega
  · rintro ⟨w, hw, hl, hok⟩
    exact ⟨g :: w, hw.cons_cons g, by simp only [List.length_cons]; omega, (gapsOk_cons ..).mpr ⟨hp, hok⟩⟩

/-- a gap too short for its slot is kept by no witness: it costs one of the `m` -/
theorem fits_cons_of_short {p : Nat → Nat → Bool} {g i : Nat} (hp : ¬ p i g = true) (gs : List Nat)
    (m : Nat) : Fits p (g :: gs) i m ↔ 0 < m ∧ Fits p gs i (m - 1) := by
  constructor
  · rintro ⟨w, hw, hl, hok⟩
    cases hw with
    | cons _ hw' =>
      have := hw'.length_le
      simp only [List.length_cons] at hl
      exact ⟨by omega, w, hw', by omega, hok⟩
    | cons_cons _ hw' => exact absurd ((gapsOk_cons ..).mp hok).1 hp
  · rintro ⟨hm, w, hw, hl, hok⟩
    exact ⟨w, hw.cons g, by simp only [List.length_cons]; omega, hok⟩

end GV.Retry
